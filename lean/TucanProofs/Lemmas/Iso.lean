import TucanProofs.Lemmas.GraphBasics
/-!
# `Relabel` and `Iso`: basic facts, composition and inversion
-/
namespace Tucan
open NxE

variable {R : Atom → Atom → Prop} {f : Nat → Nat} {g h : Graph}

/-! `SameIdent` and `SameIdentPart` are conjunctions; their parts by name -/

theorem SameIdent.z {x y : Atom} (h : SameIdent x y) : x.z = y.z := h.1
theorem SameIdent.sym {x y : Atom} (h : SameIdent x y) : x.sym = y.sym := h.2.1
theorem SameIdent.mass {x y : Atom} (h : SameIdent x y) : x.mass = y.mass := h.2.2.1
theorem SameIdent.rad {x y : Atom} (h : SameIdent x y) : x.rad = y.rad := h.2.2.2.1
theorem SameIdent.inv {x y : Atom} (h : SameIdent x y) : x.inv = y.inv := h.2.2.2.2
theorem SameIdentPart.ident {x y : Atom} (h : SameIdentPart x y) : SameIdent x y := h.1
theorem SameIdentPart.part {x y : Atom} (h : SameIdentPart x y) : x.part = y.part := h.2

theorem SameIdent.trans {x y z : Atom} (h : SameIdent x y) (h' : SameIdent y z) : SameIdent x z :=
  ⟨h.z.trans h'.z, h.sym.trans h'.sym, h.mass.trans h'.mass, h.rad.trans h'.rad, h.inv.trans h'.inv⟩

theorem SameIdent.symm {x y : Atom} (h : SameIdent x y) : SameIdent y x :=
  ⟨h.z.symm, h.sym.symm, h.mass.symm, h.rad.symm, h.inv.symm⟩

theorem Iso.mono {R R' : Atom → Atom → Prop} {f : Nat → Nat} {g h : Graph} (hRR : ∀ x y, R x y → R' x y)
    (iso : Iso R f g h) : Iso R' f g h :=
  ⟨iso.labels, iso.inj, fun a ha => by
    obtain ⟨x, y, hx, hy, hxy⟩ := iso.attrs a ha
    exact ⟨x, y, hx, hy, hRR x y hxy⟩, iso.nbrs⟩

theorem Relabel.nbrs' (r : Relabel f g h) {a : Nat} (ha : a ∈ g.labels) :
    (h.nbrs (f a)).Perm ((g.nbrs a).map f) :=
  nbrs_perm_map_of_nbrsD_perm (r.nbrs a ha)

theorem Relabel.toIso (r : Relabel f g h) : Iso Eq f g h :=
  ⟨r.labels, r.inj, fun a ha => by
    obtain ⟨x, hx⟩ := Graph.attrs?_some_of_mem ha
    exact ⟨x, x, hx, by rw [r.attrs a ha, hx], rfl⟩, fun a ha => r.nbrs' ha⟩

theorem Iso.mem_labels (iso : Iso R f g h) {a : Nat} (ha : a ∈ g.labels) : f a ∈ h.labels :=
  iso.labels.mem_iff.mpr (List.mem_map.mpr ⟨a, ha, rfl⟩)

theorem Iso.exists_preimage (iso : Iso R f g h) {b : Nat} (hb : b ∈ h.labels) : ∃ a ∈ g.labels, f a = b :=
  List.mem_map.mp (iso.labels.mem_iff.mp hb)

theorem Relabel.mem_nbrsD (r : Relabel f g h) {x w : Nat} {d : Bond} (he : (w, d) ∈ h.nbrsD x) :
    ∃ a ∈ g.labels, ∃ b, f a = x ∧ f b = w ∧ (b, d) ∈ g.nbrsD a := by
  obtain ⟨a, ha, rfl⟩ := r.toIso.exists_preimage (mem_labels_of_mem_nbrsD he)
  obtain ⟨⟨b, _⟩, hb, e⟩ := List.mem_map.1 ((r.nbrs a ha).mem_iff.1 he)
  cases e
  exact ⟨a, ha, b, rfl, rfl, hb⟩

/-- a renamed copy of a well-formed graph is well-formed: the `_spec` lemmas of the containers state `Relabel` only -/
theorem Relabel.wf (r : Relabel f g h) (hw : g.WF) : h.WF := by
  refine Graph.WF.of_obs (r.labels.nodup_iff.2 (hw.nodup.map_on f r.inj)) (fun x => ?_) fun x w d he => ?_
  · by_cases hx : x ∈ h.labels
    · obtain ⟨a, ha, rfl⟩ := r.toIso.exists_preimage hx
      rw [← nbrs_eq_map, (r.nbrs' ha).nodup_iff]
      exact hw.nodup_map_nbrs r.inj a
    · rw [nbrsD_of_not_mem hx]
      exact List.nodup_nil
  · obtain ⟨a, _, b, rfl, rfl, hb⟩ := r.mem_nbrsD he
    have hbl := hw.closedD hb
    exact ⟨r.toIso.mem_labels hbl, (r.nbrs b hbl).mem_iff.2 (List.mem_map.2 ⟨(a, d), hw.symmD hb, rfl⟩)⟩

theorem Relabel.simple (r : Relabel f g h) (hw : g.WF) (hs : g.Simple) : h.Simple :=
  Graph.Simple.of_obs (r.wf hw).nodup fun x w d he hc => by
    obtain ⟨a, ha, b, rfl, rfl, hb⟩ := r.mem_nbrsD he
    exact hs.neD hb (r.inj b (hw.closedD hb) a ha hc)

theorem Iso.bind_attrs {β} (iso : Iso R f g h) {F : Atom → Option β} (hF : ∀ x y, R x y → F x = F y)
    {a : Nat} (ha : a ∈ g.labels) :
    (h.attrs? (f a)).bind F = (g.attrs? a).bind F := by
  obtain ⟨x, y, hx, hy, hxy⟩ := iso.attrs a ha
  rw [hx, hy]
  exact (hF x y hxy).symm

theorem Iso.map_perm {β} (iso : Iso R f g h) {G G' : Nat → β} (hG : ∀ a ∈ g.labels, G' (f a) = G a) :
    (h.labels.map G').Perm (g.labels.map G) := by
  refine (iso.labels.map _).trans (.of_eq ?_)
  rw [List.map_map]
  exact List.map_congr_left hG

theorem Iso.nodes_filterMap_perm {β} (iso : Iso R f g h) (hw : g.WF) (hw' : h.WF) {F : Atom → Option β}
    (hF : ∀ x y, R x y → F x = F y) :
    (h.nodes.filterMap fun n => F n.attrs).Perm (g.nodes.filterMap fun n => F n.attrs) := by
  rw [nodes_filterMap_eq_labels hw' fun _ x => F x, nodes_filterMap_eq_labels hw fun _ x => F x]
  have : (h.labels.map fun a => (h.attrs? a).bind F).Perm (g.labels.map fun a => (g.attrs? a).bind F) :=
    iso.map_perm fun a ha => iso.bind_attrs hF ha
  have := this.filterMap id
  rwa [List.filterMap_map, List.filterMap_map] at this

theorem Iso.numberOfNodes (iso : Iso R f g h) : h.numberOfNodes = g.numberOfNodes := by
  rw [← h.length_labels, ← g.length_labels, iso.labels.length_eq, List.length_map]

theorem Iso.adj_iff (iso : Iso R f g h) (hw : g.WF) {a b : Nat} (ha : a ∈ g.labels) (hb : b ∈ g.labels) :
    h.Adj (f a) (f b) ↔ g.Adj a b := by
  unfold Graph.Adj
  rw [(iso.nbrs a ha).mem_iff, List.mem_map]
  constructor
  · rintro ⟨c, hc, hcb⟩
    have hcl : c ∈ g.labels := Graph.Adj.mem_right hc hw
    rw [iso.inj c hcl b hb hcb] at hc; exact hc
  · intro h'; exact ⟨b, h', rfl⟩

/-! ### `Iso R id`: the same labelled graph, listed differently -/

section IsoId
variable {c c' : Graph}

theorem Iso.perm_labels (iso : Iso R id c c') : c.labels.Perm c'.labels := by
  simpa using iso.labels.symm

theorem Iso.mem_labels_iff (iso : Iso R id c c') (a : Nat) : a ∈ c.labels ↔ a ∈ c'.labels :=
  iso.perm_labels.mem_iff

theorem Iso.perm_nbrs (iso : Iso R id c c') (a : Nat) : (c.nbrs a).Perm (c'.nbrs a) := by
  by_cases ha : a ∈ c.labels
  · simpa using (iso.nbrs a ha).symm
  · rw [nbrs_of_not_mem ha, nbrs_of_not_mem fun h => ha ((iso.mem_labels_iff a).2 h)]

end IsoId

theorem Iso.relabel_same {R : Atom → Atom → Prop} {φ : Nat → Nat} {c c' m m' : Graph}
    (iso : Iso R id c c') (r : Relabel φ c m) (r' : Relabel φ c' m') : Iso R id m m' := by
  have hlab := iso.perm_labels.symm
  refine ⟨?_, fun _ _ _ _ h => h, ?_, ?_⟩
  · simp only [List.map_id]
    exact r'.labels.trans ((hlab.map φ).trans r.labels.symm)
  · intro b hb
    obtain ⟨a, ha, rfl⟩ := r.toIso.exists_preimage hb
    obtain ⟨x, y, hx, hy, hxy⟩ := iso.attrs a ha
    have ha' : a ∈ c'.labels := hlab.mem_iff.mpr ha
    exact ⟨x, y, by rw [r.attrs a ha, hx], by simp only [id]; rw [r'.attrs a ha']; simpa using hy, hxy⟩
  · intro b hb
    obtain ⟨a, ha, rfl⟩ := r.toIso.exists_preimage hb
    have ha' : a ∈ c'.labels := hlab.mem_iff.mpr ha
    simp only [id, List.map_id]
    exact (r'.nbrs' ha').trans (((iso.perm_nbrs a).symm.map φ).trans (r.nbrs' ha).symm)

theorem Relabel.nbrsD_id (r : Relabel id g h) (a : Nat) : (h.nbrsD a).Perm (g.nbrsD a) := by
  by_cases ha : a ∈ g.labels
  · have := r.nbrs a ha
    rwa [show (fun e : Nat × Bond => (id e.1, e.2)) = id from rfl, List.map_id] at this
  · rw [nbrsD_of_not_mem ha, nbrsD_of_not_mem fun hc => ha ((r.toIso.mem_labels_iff a).2 hc)]

theorem Relabel.comp_id {f : Nat → Nat} {g h k : Graph} (r1 : Relabel f g h) (r2 : Relabel id h k) : Relabel f g k := by
  refine ⟨?_, r1.inj, ?_, ?_⟩
  · exact r2.toIso.perm_labels.symm.trans r1.labels
  · intro a ha
    have := r2.attrs (f a) (r1.toIso.mem_labels ha)
    simp only [id] at this
    rw [this, r1.attrs a ha]
  · intro a ha
    exact (r2.nbrsD_id _).trans (r1.nbrs a ha)

/-- the `nbrs` clause of `Iso` from membership alone: neither neighbour list has a duplicate -/
theorem Iso.nbrs_of_mem (hw : g.WF) (hw' : h.WF)
    (hinj : ∀ a ∈ g.labels, ∀ b ∈ g.labels, f a = f b → a = b) (a : Nat)
    (hmem : ∀ j', j' ∈ h.nbrs (f a) ↔ ∃ j ∈ g.nbrs a, f j = j') : (h.nbrs (f a)).Perm ((g.nbrs a).map f) := by
  refine (List.perm_ext_iff_of_nodup (hw'.nodup_nbrs _) (hw.nodup_map_nbrs hinj a)).2 fun j' => ?_
  rw [hmem, List.mem_map]

theorem Iso.of_range {R : Atom → Atom → Prop} {π : Nat → Nat} {g g' : Graph} {n : Nat}
    (hl : g.labels.Perm (List.range n)) (hl' : g'.labels.Perm (List.range n)) (hw : g.WF) (hw' : g'.WF)
    (hπ : ∀ i, i < n → π i < n) (hinj : ∀ i j, i < n → j < n → π i = π j → i = j)
    (hattrs : ∀ a, a < n → ∃ x y, g.attrs? a = some x ∧ g'.attrs? (π a) = some y ∧ R x y)
    (hadj : ∀ a b, a < n → b < n → (g.Adj a b ↔ g'.Adj (π a) (π b))) : Iso R π g g' := by
  have hperm := List.range_perm_map_of_inj n π hπ hinj
  have hlt : ∀ {a}, a ∈ g.labels → a < n := fun ha => List.mem_range.1 (hl.mem_iff.1 ha)
  have hinjL : ∀ a ∈ g.labels, ∀ b ∈ g.labels, π a = π b → a = b := fun a ha b hb => hinj a b (hlt ha) (hlt hb)
  refine ⟨(hl'.trans hperm).trans (hl.map π).symm, hinjL, fun a ha => hattrs a (hlt ha),
    fun a ha => Iso.nbrs_of_mem hw hw' hinjL a fun y => ⟨fun hy => ?_, ?_⟩⟩
  · -- a neighbour of `π a` is a label of `g'`, hence the image of some `j < n`
    obtain ⟨j, hj, rfl⟩ := List.mem_map.1 (hperm.mem_iff.1 (hl'.mem_iff.1 (Graph.Adj.mem_right hy hw')))
    exact ⟨j, (hadj a j (hlt ha) (List.mem_range.1 hj)).2 hy, rfl⟩
  · rintro ⟨j, hj, rfl⟩
    exact (hadj a j (hlt ha) (hlt (Graph.Adj.mem_right hj hw))).1 hj

theorem Iso.trans {R R' R'' : Atom → Atom → Prop} {f f' : Nat → Nat} {g h k : Graph}
    (hR : ∀ x y z, R x y → R' y z → R'' x z) (i1 : Iso R f g h) (i2 : Iso R' f' h k) :
    Iso R'' (f' ∘ f) g k := by
  refine ⟨?_, ?_, ?_, ?_⟩
  · simpa [List.map_map] using i2.labels.trans (i1.labels.map f')
  · intro a ha b hb hab
    exact i1.inj a ha b hb (i2.inj (f a) (i1.mem_labels ha) (f b) (i1.mem_labels hb) hab)
  · intro a ha
    obtain ⟨x, y, hx, hy, hxy⟩ := i1.attrs a ha
    obtain ⟨y', z, hy', hz, hyz⟩ := i2.attrs (f a) (i1.mem_labels ha)
    cases hy.symm.trans hy'
    exact ⟨x, z, hx, hz, hR x y z hxy hyz⟩
  · intro a ha
    simpa [List.map_map] using (i2.nbrs (f a) (i1.mem_labels ha)).trans ((i1.nbrs a ha).map f')

theorem Iso.symm {R R' : Atom → Atom → Prop} {f : Nat → Nat} {g h : Graph} (hR : ∀ x y, R x y → R' y x)
    (hw : g.WF) (iso : Iso R f g h) : ∃ f', Iso R' f' h g ∧ (∀ a ∈ g.labels, f' (f a) = a) := by
  -- the inverse renaming looks its argument up among the images of the labels
  let f' : Nat → Nat := fun b => (g.labels.find? fun a => f a == b).getD 0
  have hf' : ∀ a ∈ g.labels, f' (f a) = a := fun a ha => by
    simp only [f', List.find?_key_of_mem f (hw.nodup.map_on f iso.inj) ha, Option.getD_some]
  have hinv : ∀ l : List Nat, (∀ a ∈ l, a ∈ g.labels) → (l.map f).map f' = l := fun l hl => by
    rw [List.map_map]
    exact (List.map_congr_left fun a ha => hf' a (hl a ha)).trans (List.map_id _)
  refine ⟨f', ⟨?_, ?_, ?_, ?_⟩, hf'⟩
  · have := iso.labels.map f'
    rw [hinv _ fun _ ha => ha] at this
    exact this.symm
  · intro b hb c hc hbc
    obtain ⟨a, ha, rfl⟩ := iso.exists_preimage hb
    obtain ⟨a', ha', rfl⟩ := iso.exists_preimage hc
    rw [hf' a ha, hf' a' ha'] at hbc
    rw [hbc]
  · intro b hb
    obtain ⟨a, ha, rfl⟩ := iso.exists_preimage hb
    obtain ⟨x, y, hx, hy, hxy⟩ := iso.attrs a ha
    exact ⟨y, x, hy, by rw [hf' a ha]; exact hx, hR x y hxy⟩
  · intro b hb
    obtain ⟨a, ha, rfl⟩ := iso.exists_preimage hb
    rw [hf' a ha]
    have h1 := (iso.nbrs a ha).map f'
    rw [hinv _ fun c hc => Graph.Adj.mem_right hc hw] at h1
    exact h1.symm

end Tucan
