import TucanProofs.Lemmas.Pipeline
import TucanProofs.Lemmas.Agreement
/-!
# Two descriptions of one molecule: another listing order of the atoms

`SameIdentity m m'` compares two molecules atom position by atom position.  Two *descriptions* of one molecule
may also list the atoms in another order (and, with them, renumber the bonds, list them in another order and
write their endpoints the other way round): `SameMolecule σ τ m m'`.  Graphs of two such molecules are related by
`Iso SameIdent σ`, hence get the same TUCAN string.
-/
namespace Tucan

/-- `m'` describes the same molecule as `m`, the atom at position `i` of `m` being listed at position `σ i`
of `m'`; `τ` is the inverse of `σ` on the positions -/
structure SameMolecule (σ τ : Nat → Nat) (m m' : Mol) : Prop where
  n : m.atoms.length = m'.atoms.length
  maps : ∀ i, i < m.atoms.length → σ i < m.atoms.length ∧ τ i < m.atoms.length ∧ τ (σ i) = i ∧ σ (τ i) = i
  atom : ∀ i (h : i < m.atoms.length) (h' : σ i < m'.atoms.length), m.atoms[i].identity = m'.atoms[σ i].identity
  bonds : ∀ i j, i < m.atoms.length → j < m.atoms.length →
    ((∃ b ∈ m.bonds, (b.a = i ∧ b.b = j) ∨ (b.a = j ∧ b.b = i)) ↔
     (∃ b ∈ m'.bonds, (b.a = σ i ∧ b.b = σ j) ∨ (b.a = σ j ∧ b.b = σ i)))

/-- position by position is the special case `σ = τ = id` -/
theorem sameMolecule_of_sameIdentity (m m' : Mol) (h : SameIdentity m m') : SameMolecule id id m m' :=
  ⟨h.n, fun _ hi => ⟨hi, hi, rfl, rfl⟩, fun i hi hi' => h.atom i hi hi', fun i j _ _ => h.bonds i j⟩

theorem isGraphOf_iso_perm {σ τ : Nat → Nat} {m m' : Mol} (same : SameMolecule σ τ m m')
    {c c' : List (Str × Str × Str)} (hc : c.length = m.atoms.length) (hc' : c'.length = m'.atoms.length)
    {g g' : Graph} (hg : IsGraphOf g m c) (hg' : IsGraphOf g' m' c') : Iso SameIdent σ g g' := by
  refine Iso.of_range (.of_eq hg.labels) (.of_eq (same.n ▸ hg'.labels)) hg.wf hg'.wf (fun i hi => (same.maps i hi).1)
    (fun i j hi hj h => by rw [← (same.maps i hi).2.2.1, ← (same.maps j hj).2.2.1, h]) (fun a ha => ?_)
    fun a b ha hb => ((hg.adj a b).trans (same.bonds a b ha hb)).trans (hg'.adj (σ a) (σ b)).symm
  have hσ : σ a < m'.atoms.length := same.n ▸ (same.maps a ha).1
  exact ⟨_, _, hg.attrs a ha (hc ▸ ha), hg'.attrs (σ a) hσ (hc' ▸ hσ),
    MAtom.record_sameIdent (same.atom a ha hσ)⟩

theorem isGraphOf_same_string_perm (O : CanonOracle) {σ τ : Nat → Nat} {m m' : Mol} (hm : m.Ok)
    (same : SameMolecule σ τ m m') {c c' : List (Str × Str × Str)}
    (hc : c.length = m.atoms.length) (hc' : c'.length = m'.atoms.length)
    {g g' : Graph} (hg : IsGraphOf g m c) (hg' : IsGraphOf g' m' c') {s s' : Str}
    (hs : tucanOf O.order g = .ok s) (hs' : tucanOf O.order g' = .ok s') : s = s' :=
  tucan_invariant O (isGraphOf_iso_perm same hc hc' hg hg') (hg.chem hm hc)
    hg.wf hg.simple hg'.wf hg'.simple hs hs'

theorem isGraphOf_same_string (O : CanonOracle) {m m' : Mol} (hm : m.Ok) (same : SameIdentity m m')
    {c c' : List (Str × Str × Str)} (hc : c.length = m.atoms.length) (hc' : c'.length = m'.atoms.length)
    {g g' : Graph} (hg : IsGraphOf g m c) (hg' : IsGraphOf g' m' c') {s s' : Str}
    (hs : tucanOf O.order g = .ok s) (hs' : tucanOf O.order g' = .ok s') : s = s' :=
  isGraphOf_same_string_perm O hm (sameMolecule_of_sameIdentity m m' same) hc hc' hg hg' hs hs'

end Tucan
