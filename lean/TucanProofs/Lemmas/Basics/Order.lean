import TucanModel.Py

/-! What `sorted` needs of its comparison, bundled: a Boolean `≤` that is transitive, total and antisymmetric.
Under it the sorted list is ascending and is a function of the multiset of its elements.  Every order the modelled
code sorts by is one (**S1**): "all set/dict-derived sequences are sorted before use" means formally that the result
cannot depend on iteration order. -/
namespace Tucan

structure TotalLE {α : Type} (le : α → α → Bool) : Prop where
  trans : ∀ a b c, le a b → le b c → le a c
  total : ∀ a b, (le a b || le b a) = true
  antisymm : ∀ a b, le a b → le b a → a = b

namespace TotalLE
variable {α : Type} {le : α → α → Bool}

theorem of_decide [LE α] [DecidableLE α] [Std.IsLinearOrder α] : TotalLE fun a b : α => decide (a ≤ b) where
  trans a b c := by simpa using Std.le_trans
  total a b := by simpa using Std.le_total
  antisymm a b := by simpa using Std.le_antisymm

/-- `sorted(…, reverse=True)` -/
theorem flip (h : TotalLE le) : TotalLE fun a b => le b a where
  trans a b c h1 h2 := h.trans c b a h2 h1
  total a b := h.total b a
  antisymm a b h1 h2 := h.antisymm a b h2 h1

theorem sorted (h : TotalLE le) (l : List α) : (l.mergeSort le).Pairwise fun a b => le a b :=
  List.pairwise_mergeSort (fun a b c => h.trans a b c) h.total l

/-- **S1** for one order: `sorted` of a `set` or `dict` view does not depend on the order of iteration -/
theorem sort_perm_eq (h : TotalLE le) {l₁ l₂ : List α} (p : l₁.Perm l₂) : l₁.mergeSort le = l₂.mergeSort le :=
  List.Perm.eq_of_pairwise (le := fun a b => le a b) (fun a b _ _ => h.antisymm a b) (h.sorted l₁) (h.sorted l₂)
    ((List.mergeSort_perm l₁ le).trans (p.trans (List.mergeSort_perm l₂ le).symm))

end TotalLE

theorem mem_dedupAdj {α} [BEq α] [LawfulBEq α] {a : α} {l : List α} : a ∈ dedupAdj l ↔ a ∈ l := by
  fun_induction dedupAdj l with
  | case1 => rfl
  | case2 b => rfl
  | case3 b c r h ih =>
    cases (eq_of_beq h : b = c)
    simp [ih]
  | case4 b c r h ih => simp only [List.mem_cons, ih]

theorem dedupAdj_head {α} [BEq α] [LawfulBEq α] (b : α) (r : List α) :
    ∃ t, dedupAdj (b :: r) = b :: t ∨ (∃ c r', r = c :: r' ∧ b = c ∧ dedupAdj (b :: r) = dedupAdj (c :: r')) := by
  cases r with
  | nil => exact ⟨[], Or.inl rfl⟩
  | cons c r' =>
    by_cases h : b == c
    · refine ⟨[], Or.inr ⟨c, r', rfl, by simpa using h, ?_⟩⟩
      simp [dedupAdj, h]
    · exact ⟨dedupAdj (c :: r'), Or.inl (by simp [dedupAdj, h])⟩

theorem dedupAdj_strict {α} [BEq α] [LawfulBEq α] (le : α → α → Prop)
    (antisymm : ∀ a b, le a b → le b a → a = b) (l : List α) (h : l.Pairwise le) :
    (dedupAdj l).Pairwise (fun a b => le a b ∧ a ≠ b) := by
  fun_induction dedupAdj l with
  | case1 => exact .nil
  | case2 b => exact List.pairwise_singleton _ _
  | case3 b c r _ ih => exact ih (List.pairwise_cons.mp h).2
  | case4 b c r hbc ih =>
    obtain ⟨hb, hc⟩ := List.pairwise_cons.mp h
    refine List.pairwise_cons.mpr ⟨fun x hx => ?_, ih hc⟩
    have hx' : x ∈ c :: r := mem_dedupAdj.mp hx
    refine ⟨hb x hx', ?_⟩
    rintro rfl
    -- `b` would stand after `c`, and before it
    have hbc' : b ≠ c := by simpa using hbc
    rcases List.mem_cons.mp hx' with h1 | h1
    · exact hbc' h1
    · exact hbc' (antisymm b c (hb c (by simp)) ((List.pairwise_cons.mp hc).1 b h1))

/-- `sorted(set(l))` is strictly ascending -/
theorem TotalLE.dedupAdj_sorted {α : Type} [BEq α] [LawfulBEq α] {le : α → α → Bool} (h : TotalLE le) (l : List α) :
    (dedupAdj (l.mergeSort le)).Pairwise fun a b => le a b ∧ a ≠ b :=
  dedupAdj_strict (fun a b => le a b = true) h.antisymm _ (h.sorted l)

theorem TotalLE.dedupAdj_sort_nodup {α : Type} [BEq α] [LawfulBEq α] {le : α → α → Bool} (h : TotalLE le)
    (l : List α) : (dedupAdj (l.mergeSort le)).Nodup :=
  (h.dedupAdj_sorted l).imp And.right

theorem TotalLE.sorted_of_nodup {α : Type} {le : α → α → Bool} (h : TotalLE le) {l : List α} (hn : l.Nodup) :
    (l.mergeSort le).Pairwise fun a b => le a b ∧ a ≠ b :=
  (h.sorted l).and ((List.mergeSort_perm l le).nodup_iff.2 hn)

-- `dedupAdj_sorted` for the `≤` of a type, spelt as the model's `leN`, `leI`, `leS`, `leStr` unfold
theorem dedupAdj_sort_strict {α : Type} [LE α] [LT α] [DecidableLE α] [Std.IsLinearOrder α] [Std.LawfulOrderLT α]
    [BEq α] [LawfulBEq α] (l : List α) : (dedupAdj (l.mergeSort fun a b => decide (a ≤ b))).Pairwise (· < ·) :=
  (TotalLE.of_decide.dedupAdj_sorted l).imp fun h => Std.lt_of_le_of_ne (of_decide_eq_true h.1) h.2

/-- `sorted((a, b))` -/
theorem orderedPair_eq_iff {α} [LE α] [DecidableLE α] [Std.IsLinearOrder α] {a b a' b' : α} :
    (if a ≤ b then (a, b) else (b, a)) = (if a' ≤ b' then (a', b') else (b', a')) ↔
      (a = a' ∧ b = b') ∨ (a = b' ∧ b = a') := by
  constructor
  · intro h
    by_cases hab : a ≤ b <;> by_cases hab' : a' ≤ b' <;>
      simp only [hab, hab', if_true, if_false, Prod.mk.injEq] at h
    · exact Or.inl h
    · exact Or.inr h
    · exact Or.inr h.symm
    · exact Or.inl h.symm
  · rintro (⟨rfl, rfl⟩ | ⟨rfl, rfl⟩)
    · rfl
    · by_cases h : a ≤ b
      · by_cases h' : b ≤ a
        · rw [Std.le_antisymm h h']
        · rw [if_pos h, if_neg h']
      · rw [if_neg h, if_pos (Std.le_of_not_ge h)]

theorem leN_totalLE : TotalLE leN := .of_decide
theorem leI_totalLE : TotalLE leI := .of_decide
theorem leK_totalLE : TotalLE leK := .of_decide
theorem geK_totalLE : TotalLE geK := leK_totalLE.flip
theorem leS_totalLE : TotalLE leS := .of_decide
theorem leStr_totalLE : TotalLE leStr := .of_decide

theorem sortN_perm_eq {l₁ l₂ : List Nat} (h : l₁.Perm l₂) : sortN l₁ = sortN l₂ :=
  leN_totalLE.sort_perm_eq h
theorem sortN_perm (l : List Nat) : (sortN l).Perm l := List.mergeSort_perm l _
theorem sortN_strict {l : List Nat} (hn : l.Nodup) : (sortN l).Pairwise (· < ·) :=
  (leN_totalLE.sorted_of_nodup hn).imp fun h => Nat.lt_of_le_of_ne (of_decide_eq_true h.1) h.2
theorem sortK_perm_eq {l₁ l₂ : List Key} (h : l₁.Perm l₂) : sortK l₁ = sortK l₂ :=
  leK_totalLE.sort_perm_eq h
theorem sortKDesc_perm_eq {l₁ l₂ : List Key} (h : l₁.Perm l₂) : sortKDesc l₁ = sortKDesc l₂ :=
  geK_totalLE.sort_perm_eq h
theorem sortS_perm_eq {l₁ l₂ : List Seq} (h : l₁.Perm l₂) : sortS l₁ = sortS l₂ :=
  leS_totalLE.sort_perm_eq h

section Pair
variable {α : Type} [LT α] [DecidableEq α] [DecidableLT α]

/-- Python's order on tuples `(x, n)`, for a strict linear order on the first component -/
def lePair (a b : α × Nat) : Bool := decide (a.1 < b.1) || (a.1 == b.1 && decide (a.2 ≤ b.2))

theorem lePair_iff {a b : α × Nat} : lePair a b = true ↔ a.1 < b.1 ∨ (a.1 = b.1 ∧ a.2 ≤ b.2) := by
  simp [lePair]

variable [Std.Irrefl (fun (a b : α) => a < b)] [Std.Asymm (fun (a b : α) => a < b)]
  [Std.Trichotomous (fun (a b : α) => a < b)] [Trans (fun (a b : α) => a < b) (fun a b => a < b) (fun a b => a < b)]

theorem lePair_totalLE : TotalLE (lePair (α := α)) where
  trans a b c := by
    rw [lePair_iff, lePair_iff, lePair_iff]
    rintro (h1 | ⟨h1, h1'⟩) (h2 | ⟨h2, h2'⟩)
    · exact Or.inl (Std.lt_trans h1 h2)
    · exact Or.inl (h2 ▸ h1)
    · exact Or.inl (h1 ▸ h2)
    · exact Or.inr ⟨h1.trans h2, Nat.le_trans h1' h2'⟩
  total a b := by
    rw [Bool.or_eq_true, lePair_iff, lePair_iff]
    rcases Std.lt_trichotomy a.1 b.1 with h | h | h
    · exact Or.inl (Or.inl h)
    · rcases Nat.le_total a.2 b.2 with h' | h'
      · exact Or.inl (Or.inr ⟨h, h'⟩)
      · exact Or.inr (Or.inr ⟨h.symm, h'⟩)
    · exact Or.inr (Or.inl h)
  antisymm a b := by
    rw [lePair_iff, lePair_iff]
    rintro (h1 | ⟨h1, h1'⟩) (h2 | ⟨h2, h2'⟩)
    · exact absurd h2 (Std.not_gt_of_lt h1)
    · rw [h2] at h1; exact absurd h1 Std.lt_irrefl
    · rw [h1] at h2; exact absurd h2 Std.lt_irrefl
    · exact Prod.ext h1 (Nat.le_antisymm h1' h2')
end Pair

theorem leSN_eq_lePair : leSN = lePair := by
  funext a b; rw [Bool.eq_iff_iff, lePair_iff]; simp [leSN]
theorem leNN_eq_lePair : leNN = lePair := by
  funext a b; rw [Bool.eq_iff_iff, lePair_iff]; simp [leNN]

theorem sortSN_perm_eq {l₁ l₂ : List (Seq × Nat)} (h : l₁.Perm l₂) : l₁.mergeSort leSN = l₂.mergeSort leSN := by
  rw [leSN_eq_lePair]; exact lePair_totalLE.sort_perm_eq h

theorem sortNN_perm_eq {l₁ l₂ : List (Nat × Nat)} (h : l₁.Perm l₂) : l₁.mergeSort leNN = l₂.mergeSort leNN := by
  rw [leNN_eq_lePair]; exact lePair_totalLE.sort_perm_eq h

end Tucan

/-! `sorted(l, key=key)`.  The keys of the result are the sorted keys whatever the elements are (`map_mergeSort_key`); the
result itself is determined only where the key tells the elements of `l` apart (`inj` in `mergeSort_key_eq`); nothing is
said about the order among elements of equal key. -/

theorem List.pairwise_mergeSort_key {α β} [LE β] [DecidableLE β] [Std.IsLinearPreorder β] (key : α → β)
    (l : List α) : (l.mergeSort fun a b => decide (key a ≤ key b)).Pairwise fun a b => key a ≤ key b := by
  have := List.pairwise_mergeSort (le := fun a b => decide (key a ≤ key b))
    (fun a b c hab hbc => decide_eq_true (Std.le_trans (of_decide_eq_true hab) (of_decide_eq_true hbc)))
    (fun a b => by simpa using Std.le_total (a := key a) (b := key b)) l
  simpa using this

theorem List.map_mergeSort_key {α β} [LE β] [DecidableLE β] [Std.IsLinearOrder β] (key : α → β) {l : List α}
    {s : List β} (hp : (l.map key).Perm s) (hs : s.Pairwise (· ≤ ·)) :
    (l.mergeSort fun a b => decide (key a ≤ key b)).map key = s :=
  List.Perm.eq_of_pairwise (le := (· ≤ ·)) (fun _ _ _ _ => Std.le_antisymm)
    (List.pairwise_map.2 (List.pairwise_mergeSort_key key l)) hs (((List.mergeSort_perm l _).map key).trans hp)

theorem List.mergeSort_key_eq {α β} [LE β] [DecidableLE β] [Std.IsLinearPreorder β] (key : α → β) {l s : List α}
    (hp : s.Perm l) (hs : s.Pairwise fun a b => key a ≤ key b)
    (inj : ∀ a ∈ s, ∀ b ∈ s, key a ≤ key b → key b ≤ key a → a = b) :
    (l.mergeSort fun a b => decide (key a ≤ key b)) = s :=
  List.Perm.eq_of_pairwise (le := fun a b => key a ≤ key b)
    (fun a b ha hb => inj a (hp.mem_iff.2 (List.mem_mergeSort.1 ha)) b hb)
    (List.pairwise_mergeSort_key key l) hs ((List.mergeSort_perm l _).trans hp.symm)
