import TucanProofs.Lemmas.V3000File
/-!
# A concrete V3000 file with a star atom and a multi-attachment bond

Ferrocene-like fragment, reduced: an iron atom bonded to a star atom whose `ENDPTS` list names two carbons
(written after another bond keyword), the carbons bonded to each other; the atom indices are not consecutive
(1, 2, 5, 9) and the star atom sits between real atoms.  The file meets every hypothesis of
`C07_connection_table_every_spelling` (`IsV3000File`, `V3BondsOk`), so the reader returns three atoms (keys 0, 1,
8 — the star atom with index 5 is not an atom) and three bonds: C–C and one bond from the iron to each listed endpoint.
-/
namespace Tucan
namespace StarExample

def atoms : List AtomEntry :=
  [.real (cs "1") 1 ['C'] (cs "0") (cs "0") (cs "0") (cs "0") [],
   .real (cs "2") 2 ['C'] (cs "1.4") (cs "0") (cs "0") (cs "0") [],
   .star (cs "5") 5 [cs "0.7", cs "0", cs "0", cs "0"],
   .real (cs "9") 9 ['F', 'e'] (cs "0.7") (cs "2") (cs "0") (cs "0") [.chg 2]]

def bonds : List BondEntry :=
  [{ idxTok := cs "1", btype := 2, a1 := 1, a2 := 2, pre := [], ends := none, post := [] },
   { idxTok := cs "2", btype := 9, a1 := 9, a2 := 5, pre := [cs "ATTACH=ALL"], ends := some [1, 2], post := [] }]

def lines : List Str :=
  [cs "fragment", cs "  example", cs "", cs "  0  0  0     0  0            999 V3000",
   cs "M  V30 BEGIN CTAB",
   cs "M  V30 COUNTS 4 2 0 0 0",
   cs "M  V30 BEGIN ATOM",
   cs "M  V30 1 C 0 0 0 0",
   cs "M  V30 2 C 1.4 0 0 0",
   cs "M  V30 5 * 0.7 0 0 0",
   cs "M  V30 9 Fe 0.7 2 0 0 CHG=2",
   cs "M  V30 END ATOM",
   cs "M  V30 BEGIN BOND",
   cs "M  V30 1 2 1 2",
   cs "M  V30 2 9 9 5 ATTACH=ALL ENDPTS=(2 1 2)",
   cs "M  V30 END BOND",
   cs "M  V30 END CTAB",
   cs "M  END"]

theorem isV3000File : IsV3000File lines atoms bonds := by
  refine IsV3000File.of_plain (cs "fragment") (cs "  example") (cs "") (cs "  0  0  0     0  0            999 V3000")
    [cs "BEGIN", cs "CTAB"] [cs "0", cs "0", cs "0"] [cs "M  V30 END CTAB", cs "M  END"]
    (allRendered_plain _ _ (by decide +kernel)) ?_
  simp (disch := rfl) only [lines, cs, toList_lit]
  decide +kernel

theorem reads :
    graphAttributesV3000 lines = .ok (atomDictOf atoms, bondDictOf (starsOf atoms) bonds) ∧
    (atomDictOf atoms).map (·.1) = [0, 1, 8] ∧ starsOf atoms = [4] ∧
    (bondDictOf (starsOf atoms) bonds).map (·.1) = [(0, 1), (8, 0), (8, 1)] :=
  ⟨isV3000File.reads (by unfold V3BondsOk; decide +kernel), by decide +kernel, by decide +kernel, by decide +kernel⟩

end StarExample
end Tucan
