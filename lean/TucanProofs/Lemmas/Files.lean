import TucanProofs.Lemmas.FilesPerm
import TucanProofs.Lemmas.Agreement
import TucanProofs.Lemmas.MolfileText
import TucanProofs.Lemmas.V3000File
import TucanProofs.Lemmas.V2000File
/-!
# Files that state a molecule

A file (`IsV3000File`, `IsV2000File`: the bundled hypotheses of the two readers' specifications) whose entries state a
molecule (`V3StatesIdx`, `V2StatesRep`) is read as the molecule's dictionaries: its lines are, in order, their entries
(`reads_entries`).  Hence its text (`IsTextOf`) is read as a graph of the molecule (`ReadsAs`, `IsGraphOf`), and texts
stating molecules of one identity get one string.
-/
namespace Tucan

/-- `graph_from_molfile_text(text)` is the graph of molecule `m` (coordinates spelled `c`) -/
def ReadsAs (text : Str) (m : Mol) (c : List (Str × Str × Str)) : Prop :=
  graphFromMolfileText text = (graphFromMolecule (m.atomDict c) m.bondDict >>= fun q => pure q.1)

theorem v3000_reads_idx {m : Mol} (hm : m.Ok) {idx : List Int} {coords : List (Str × Str × Str)} {lines : List Str}
    {atoms : List AtomEntry} {bonds : List BondEntry} (f : IsV3000File lines atoms bonds)
    (h : V3StatesIdx m idx coords atoms bonds) {κ : Nat → Int} (hκ : ∀ i (hi : i < idx.length), κ i = idx[i] - 1) :
    graphAttributesV3000 lines = .ok (m.atomsAt κ coords, m.bondsAt κ) := by
  obtain ⟨hA, hB⟩ := h.entries hm hκ
  exact f.reads_entries hA (Mol.atomsAt_keys_nodup h.nAtoms.2 (h.keyed hκ)) hB
    (Mol.bondsAt_keys_nodup hm (h.keyed hκ)) (Mol.bondsAt_keys_mem hm h.nAtoms.2)

theorem v3000_reads_mol {m : Mol} (hm : m.Ok) {coords : List (Str × Str × Str)} {lines : List Str}
    {atoms : List AtomEntry} {bonds : List BondEntry} (f : IsV3000File lines atoms bonds)
    (h : V3States m coords atoms bonds) :
    graphAttributesV3000 lines = .ok (m.atomDict coords, m.bondDict) := by
  rw [Mol.atomDict_eq, Mol.bondDict_eq hm]
  exact v3000_reads_idx hm f h.toIdx fun i hi => by simp [oneUp]

theorem v2000_reads_mol_rep {m : Mol} (hm : m.Ok) {lines : List Str} {atoms : List V2Atom} {bonds : List V2Bond}
    {bl : List BlockLine} (f : IsV2000File lines atoms bonds bl) (h : V2StatesRep m atoms bonds bl) :
    graphAttributesV2000 lines = .ok (m.atomDict (v2Coords atoms), m.bondDict) := by
  obtain ⟨hA, hB⟩ := h.entries hm f.atomsOk
  rw [f.reads_entries hB (Mol.bondsAt_keys_nodup hm m.keyed_cast), hA, Mol.atomDict_eq, Mol.bondDict_eq hm]

theorem v3000_text_reads_mol {m : Mol} (hm : m.Ok) {coords : List (Str × Str × Str)} {text : Str} {lines : List Str}
    {atoms : List AtomEntry} {bonds : List BondEntry} (ht : IsTextOf text lines) (f : IsV3000File lines atoms bonds)
    (hver : ∀ l3, lines[3]? = some l3 → EndsInWord l3 (cs "V3000"))
    (h : V3States m coords atoms bonds) : ReadsAs text m coords := by
  rw [ReadsAs, f.text_reads ht hver, v3000_reads_mol hm f h]
  rfl

theorem v2000_text_reads_mol_rep {m : Mol} (hm : m.Ok) {text : Str} {lines : List Str}
    {atoms : List V2Atom} {bonds : List V2Bond} {bl : List BlockLine} (ht : IsTextOf text lines)
    (f : IsV2000File lines atoms bonds bl)
    (hver : ∀ l3, lines[3]? = some l3 → EndsInWord l3 (cs "V2000"))
    (h : V2StatesRep m atoms bonds bl) : ReadsAs text m (v2Coords atoms) := by
  rw [ReadsAs, f.text_reads ht hver, v2000_reads_mol_rep hm f h]
  rfl

theorem ReadsAs.graph_of {text : Str} {m : Mol} {c : List (Str × Str × Str)} (r : ReadsAs text m c) (hm : m.Ok)
    (hc : c.length = m.atoms.length) : ∃ g, graphFromMolfileText text = .ok g ∧ IsGraphOf g m c := by
  obtain ⟨g, post, hg, hG⟩ := Mol.graph_of_mol hm hc
  exact ⟨g, by rw [r, hg]; rfl, hG⟩

theorem ReadsAs.isGraphOf {text : Str} {m : Mol} {c : List (Str × Str × Str)} (r : ReadsAs text m c) (hm : m.Ok)
    (hc : c.length = m.atoms.length) {g : Graph} (hg : graphFromMolfileText text = .ok g) : IsGraphOf g m c := by
  obtain ⟨g0, h0, hG⟩ := r.graph_of hm hc
  cases hg.symm.trans h0
  exact hG

/-- with arbitrary indices the dictionaries read have the indices as keys and are not the molecule's own, so the
result is not stated as `ReadsAs`; the graph built from them is a graph of the molecule all the same: the keys do not
show in it -/
theorem v3000_text_reads_graph_of {m : Mol} (hm : m.Ok) {idx : List Int} {coords : List (Str × Str × Str)}
    {text : Str} {lines : List Str} {atoms : List AtomEntry} {bonds : List BondEntry}
    (ht : IsTextOf text lines) (f : IsV3000File lines atoms bonds)
    (hver : ∀ l3, lines[3]? = some l3 → EndsInWord l3 (cs "V3000"))
    (h : V3StatesIdx m idx coords atoms bonds) :
    ∃ g, graphFromMolfileText text = .ok g ∧ IsGraphOf g m coords := by
  have hκ : ∀ i (hi : i < idx.length), idx[i]?.getD 0 - 1 = idx[i] - 1 := fun i hi => by simp [hi]
  obtain ⟨g, post, hg, hG⟩ := Mol.graph_of_dicts hm h.nAtoms.2 (h.keyed hκ)
  refine ⟨g, ?_, hG⟩
  rw [f.text_reads ht hver, v3000_reads_idx hm f h hκ, PyM.ok_bind, hg]
  rfl

/-- **Two files, one identity, one string.**  If two texts are read as molecules that agree on what TUCAN
identifies a molecule by, the pipeline gives them the same string — whatever else the two files say. -/
theorem readsAs_same_string (O : CanonOracle) {m m' : Mol} (hm : m.Ok) (hm' : m'.Ok) (same : SameIdentity m m')
    {c c' : List (Str × Str × Str)} (hc : c.length = m.atoms.length) (hc' : c'.length = m'.atoms.length)
    {text text' : Str} (r : ReadsAs text m c) (r' : ReadsAs text' m' c') {g g' : Graph} {s s' : Str}
    (hg : graphFromMolfileText text = .ok g) (hg' : graphFromMolfileText text' = .ok g')
    (hs : tucanOf O.order g = .ok s) (hs' : tucanOf O.order g' = .ok s') : s = s' :=
  isGraphOf_same_string O hm same hc hc' (r.isGraphOf hm hc hg) (r'.isGraphOf hm' hc' hg') hs hs'

/-- a file that states `m` is read without error -/
theorem readsAs_ok (m : Mol) (hm : m.Ok) (c : List (Str × Str × Str)) (hc : c.length = m.atoms.length)
    (text : Str) (r : ReadsAs text m c) : ∃ g, graphFromMolfileText text = .ok g ∧ g.WF ∧ g.Simple ∧ g.Chem := by
  obtain ⟨g, hg, hG⟩ := r.graph_of hm hc
  exact ⟨g, hg, hG.wf, hG.simple, hG.chem hm hc⟩

end Tucan
