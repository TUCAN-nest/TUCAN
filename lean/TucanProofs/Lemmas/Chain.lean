import TucanProofs.Lemmas.Written
import TucanProofs.Lemmas.RoundTrip
import TucanProofs.Lemmas.AstDenotation
import TucanProofs.Examples
/-!
# string → graph → molfile → graph → string

`write_read_gen` describes the graph read back node by node.  Here that becomes the relation the pipeline is invariant
under: for a molecule graph the graph read back is the same molecule (`Iso SameIdent`, atom ↦ its listing position), so
it gets the same TUCAN string.  Also (`ChainT`): parsed graphs are writable, writing, reading back and the pipeline all
return; and a concrete graph that meets the write/read hypotheses.
-/
namespace Tucan

/-- the position at which `g` lists the node `a`: the label the reader gives it -/
def listPos (g : Graph) (a : Nat) : Nat := (indexOf? a g.labels).getD 0

namespace Chain

theorem listPos_spec (g : Graph) (hw : g.WF) (a : Nat) (ha : a ∈ g.labels) :
    ∃ i, ∃ (h : i < g.nodes.length), listPos g a = i ∧ g.nodes[i].id = a := by
  obtain ⟨n, hn, rfl⟩ := List.mem_map.1 ha
  obtain ⟨i, hi, rfl⟩ := List.getElem_of_mem hn
  have h := (indexOf?_eq_some_iff hw.nodup).2
    (List.getElem?_eq_getElem (l := g.labels) (i := i) (by rw [Graph.length_labels]; exact hi))
  simp only [Graph.labels, List.getElem_map] at h
  exact ⟨i, hi, by simp only [listPos, Graph.labels, h, Option.getD_some], rfl⟩

/-- the atomic number the table lookup finds for the symbol of a chemistry-level atom is its `z` -/
theorem sameIdent_readBack {x : Atom} (hx : MolAtom x) {z' : Int}
    (h : atomicNumberOf (x.sym.getD []) = .ok z') : SameIdent x (readBackAtom x z') := by
  obtain ⟨z, hz, hsym, hinv, -, -⟩ := hx.chem
  obtain ⟨s, hs⟩ := hx.sym
  obtain ⟨-, he, h1⟩ := symOfZ_spec (hs ▸ hsym).symm
  rw [hs, Option.getD_some, atomicNumberOf_of_elementZ he] at h
  obtain rfl : z' = z := by have := Except.ok.inj h; omega
  exact ⟨hz, rfl, rfl, rfl, hinv⟩

end Chain

/-- **The graph read back is the written molecule.** -/
theorem write_read_iso (g : Graph) (w : WritableGraph g) (hs : g.Simple) (hmol : g.MolAtoms)
    (hdr : Str) (hh : GoodHeader hdr) (lines : List Str) (g' : Graph)
    (hwr : graphToMolfileLines g hdr = .ok lines) (hrd : graphFromMolfileText (joinLines lines) = .ok g') :
    g'.WF ∧ g'.Simple ∧ Iso SameIdent (listPos g) g g' := by
  have r := ReadBack.of_read w hs hh hwr hrd
  have hw := w.wf
  have hmem : ∀ {a}, a < g.numberOfNodes → a ∈ g.labels := fun ha => w.labels.mem_iff.2 (List.mem_range.2 ha)
  refine ⟨r.wf, r.simple, Iso.of_range w.labels (.of_eq r.labels) hw r.wf (fun a ha => ?_) (fun a b ha hb h => ?_)
    (fun a ha => ?_) fun a b ha hb => ?_⟩
  · obtain ⟨i, hi, ei, -⟩ := Chain.listPos_spec g hw a (hmem ha)
    exact ei ▸ hi
  · obtain ⟨i, hi, ei, rfl⟩ := Chain.listPos_spec g hw a (hmem ha)
    obtain ⟨j, hj, ej, rfl⟩ := Chain.listPos_spec g hw b (hmem hb)
    rw [ei, ej] at h
    subst h
    rfl
  · obtain ⟨i, hi, ei, rfl⟩ := Chain.listPos_spec g hw a (hmem ha)
    have hx := NxE.attrs?_of_mem hw.nodup (List.getElem_mem hi)
    obtain ⟨z', hz', hy⟩ := r.attrs i hi
    rw [ei]
    exact ⟨_, _, hx, hy, Chain.sameIdent_readBack (hmol _ (hmem ha) _ hx) hz'⟩
  · obtain ⟨i, hi, ei, rfl⟩ := Chain.listPos_spec g hw a (hmem ha)
    obtain ⟨j, hj, ej, rfl⟩ := Chain.listPos_spec g hw b (hmem hb)
    rw [ei, ej, NxE.adj_iff, NxE.adj_iff]
    constructor
    · rintro ⟨d, hd⟩
      exact ⟨_, (r.nbrs i j hi hj _).2 ⟨d, hd, rfl⟩⟩
    · rintro ⟨d', hd'⟩
      obtain ⟨d, hd, -⟩ := (r.nbrs i j hi hj d').1 hd'
      exact ⟨d, hd⟩

/-- `pipeline_roundtrip` for a parse `H` of the emitted string that is given; the labels of `H` in the form
`WritableGraph.labels` asks for -/
theorem parsed_emitted (O : CanonOracle) (g0 : Graph) (hw0 : g0.WF) (hs0 : g0.Simple) (hmol0 : g0.MolAtoms)
    (hsize0 : (natRepr (g0.numberOfNodes + 1)).length ≤ intMaxStrDigits) (s : Str) (h0 : tucanOf O.order g0 = .ok s)
    (H : Graph) (hp : graphFromTucan s = .ok H) :
    ∃ τ, Iso SameIdent τ g0 H ∧ H.numberOfNodes = g0.numberOfNodes ∧
      H.labels.Perm (List.range H.numberOfNodes) ∧ H.WF ∧ H.Simple ∧ H.MolAtoms := by
  obtain ⟨H0, τ, hp0, iso0, hl, Hw, Hs, Hm⟩ := pipeline_roundtrip O.order O.perm g0 hw0 hs0 hmol0 hsize0 s h0
  obtain rfl := Except.ok.inj (hp.symm.trans hp0)
  have hn : H.numberOfNodes = g0.numberOfNodes := by
    rw [← H.length_labels, hl, List.length_range]
  exact ⟨τ, iso0, hn, by rw [hn, hl], Hw, Hs, Hm⟩

namespace ChainT

theorem zeroCoord_ok :
    IsToken zeroCoord ∧ pyFloatOk zeroCoord = true ∧ endsWithChar zeroCoord '-' = false := by
  decide +kernel

theorem writable_of_mol (n : Node) (hm : MolAtom n.attrs)
    (hc : n.attrs.chg = none ∧ n.attrs.x = none ∧ n.attrs.y = none ∧ n.attrs.zc = none)
    (hrad : ∀ r, n.attrs.rad = some r → r ≤ 3) : WritableAtom n := by
  obtain ⟨hchg, hx, hy, hz⟩ := hc
  refine ⟨?_, ?_, (fun c h => nomatch hchg.symm.trans h), fun r h => ⟨(hm.radPos r h).1, hrad r h⟩, hm.massPos⟩
  · obtain ⟨s, hs, hel, -⟩ := hm.sym_z
    exact ⟨s, hs, hel⟩
  · intro t ht
    rw [hx, hy, hz] at ht
    rw [show t = zeroCoord by simpa using ht]
    exact zeroCoord_ok

theorem writable_parsed {s : Str} {H : Graph} (hp : graphFromTucan s = .ok H)
    (hrad : ∀ n ∈ H.nodes, ∀ r, n.attrs.rad = some r → r ≤ 3) : ∀ n ∈ H.nodes, WritableAtom n := by
  obtain ⟨toks, ast, hl, hsen, d⟩ := graphFromTucan_sentence_denotes hp
  intro n hn
  have hx := NxE.attrs?_of_mem d.wf.nodup hn
  exact writable_of_mol n (d.molAtoms (Acc.sentence_ok hl hsen).attrs _ (List.mem_map_of_mem hn) _ hx)
    (d.attrs _ _ hx).2.2 (hrad n hn)

/-- **write, read back, run the pipeline: every step returns**, for a writable molecule graph with at least one atom;
the graph read back is the written molecule (`write_read_iso`) -/
theorem write_read_string (O : CanonOracle) {g : Graph} (w : WritableGraph g) (hs : g.Simple) (hmol : g.MolAtoms)
    (hne : g.labels ≠ []) {hdr : Str} (hh : GoodHeader hdr) :
    ∃ lines g' s', graphToMolfileLines g hdr = .ok lines ∧ graphFromMolfileText (joinLines lines) = .ok g' ∧
      tucanOf O.order g' = .ok s' ∧ g'.WF ∧ g'.Simple ∧ Iso SameIdent (listPos g) g g' := by
  obtain ⟨lines, g', hwr, -, hrd, -⟩ := write_read_gen g w hs hdr hh
  obtain ⟨hw', hs', iso⟩ := write_read_iso g w hs hmol hdr hh lines g' hwr hrd
  obtain ⟨a, ha⟩ := List.exists_mem_of_ne_nil _ hne
  obtain ⟨s', h'⟩ := pipeline_total O.order O.perm g' hw' hs' (List.ne_nil_of_mem (iso.mem_labels ha))
    (hmol.of_iso iso).chem.z_inv_isSome
  exact ⟨lines, g', s', hwr, hrd, h', hw', hs', iso⟩

end ChainT

/-- non-vacuity: the concrete graph of `Examples.lean` (three atoms listed in the order 2, 0, 1, an isotope
label, a charge, a double bond) meets the hypotheses of `C09_write_read_any_listing` -/
theorem exGraph_writable :
    exGraph.labels.Perm (List.range exGraph.numberOfNodes) ∧
    (∀ n ∈ exGraph.nodes, WritableAtom n) ∧
    (∀ n ∈ exGraph.nodes, ∀ e ∈ n.nbrs, ∀ bt, e.2.btype = some bt → (intRepr bt).length ≤ intMaxStrDigits) ∧
    (natRepr (exGraph.numberOfNodes + exGraph.numberOfEdges + 1)).length ≤ intMaxStrDigits ∧
    GoodHeader "  TUCAN".toList := by
  have hb : ∀ n ∈ exGraph.nodes, ∀ e ∈ n.nbrs, ∀ bt ∈ e.2.btype, (intRepr bt).length ≤ intMaxStrDigits := by
    decide +kernel
  exact ⟨by decide +kernel, by decide +kernel, hb, by decide +kernel, by unfold GoodHeader; decide +kernel⟩

end Tucan
