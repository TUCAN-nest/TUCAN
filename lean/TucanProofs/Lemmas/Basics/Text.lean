import TucanProofs.Lemmas.Basics.List
/-! What the proofs use of the string half of the Python prelude, about variables: character classes, trimming a padded
text, `split` at the first separator, the decimal texts `str(n)` and `str(i)`, `int()`, fixed columns, tokens joined by
single blanks and `split()` on them. -/
namespace Tucan

theorem isDigit_iff {c : Char} : isDigit c = true ↔ 48 ≤ c.toNat ∧ c.toNat ≤ 57 := by
  simp only [isDigit, Bool.and_eq_true, decide_eq_true_eq]
  exact Iff.rfl

theorem isUpper_iff {c : Char} : isUpper c = true ↔ 65 ≤ c.toNat ∧ c.toNat ≤ 90 := by
  simp only [isUpper, Bool.and_eq_true, decide_eq_true_eq]
  exact Iff.rfl

theorem isLower_iff {c : Char} : isLower c = true ↔ 97 ≤ c.toNat ∧ c.toNat ≤ 122 := by
  simp only [isLower, Bool.and_eq_true, decide_eq_true_eq]
  exact Iff.rfl

theorem digit19_iff {c : Char} : '1' ≤ c ∧ c ≤ '9' ↔ isDigit c = true ∧ c ≠ '0' := by
  rw [isDigit_iff, ne_eq, ← Char.toNat_inj]
  show 49 ≤ c.toNat ∧ c.toNat ≤ 57 ↔ _ ∧ ¬ c.toNat = 48
  omega

theorem isUpper_not_lower {c : Char} (h : isUpper c = true) : isLower c = false := by
  have := isUpper_iff.1 h
  rw [← Bool.not_eq_true, isLower_iff]; omega

theorem isUpper_not_digit {c : Char} (h : isUpper c = true) : isDigit c = false := by
  have := isUpper_iff.1 h
  rw [← Bool.not_eq_true, isDigit_iff]; omega

theorem isUpper_not_digit19 {c : Char} (h : isUpper c = true) : ¬ ('1' ≤ c ∧ c ≤ '9') := fun h19 =>
  absurd (digit19_iff.1 h19).1 (by rw [isUpper_not_digit h]; decide)

theorem not_space_of_gt {c : Char} (h : 32 < c.toNat) (h' : c.toNat < 128) : isPySpace c = false := by
  -- every alternative compares `c.toNat` with numerals; the non-ASCII spaces of `isUniSpace` all lie above 127 (`h'`)
  simp only [isPySpace, isUniSpace, Bool.or_eq_false_iff, Bool.and_eq_false_iff, beq_eq_false_iff_ne, ne_eq,
    ← Char.toNat_inj, Char.reduceToNat, decide_eq_false_iff_not]
  omega

theorem not_cspace_of_gt {c : Char} (h : 32 < c.toNat) : isCSpace c = false := by
  simp only [isCSpace, Bool.or_eq_false_iff, Bool.and_eq_false_iff, beq_eq_false_iff_ne, ne_eq,
    ← Char.toNat_inj, Char.reduceToNat, decide_eq_false_iff_not]
  omega

theorem not_lineBreak_of_not_space {c : Char} (h : isPySpace c = false) : isLineBreak c = false := by
  simp only [isPySpace, isUniSpace, Bool.or_eq_false_iff] at h
  have h28 := h.1.2
  -- every alternative of `isLineBreak` but the range 28 … 30 is literally one of `isPySpace`
  simp only [isLineBreak, h, Bool.false_or, Bool.or_false]
  simp only [Bool.and_eq_false_iff, decide_eq_false_iff_not] at h28 ⊢
  omega

theorem foldChar_ascii {c : Char} (h : c.toNat < 128) : foldChar c = c := by simp [foldChar, h]

theorem isDigit_ascii {c : Char} (h : isDigit c = true) : c.toNat < 128 := by
  have := isDigit_iff.1 h; omega

theorem isDigit_not_space {c : Char} (h : isDigit c = true) : isPySpace c = false := by
  have := isDigit_iff.1 h
  exact not_space_of_gt (by omega) (by omega)

theorem isDigit_not_cspace {c : Char} (h : isDigit c = true) : isCSpace c = false :=
  not_cspace_of_gt (by have := isDigit_iff.1 h; omega)

theorem dropWhileEnd_append_of_all {p : Char → Bool} (x ws : Str) (h : ∀ c ∈ ws, p c = true) :
    dropWhileEnd p (x ++ ws) = dropWhileEnd p x := by
  unfold dropWhileEnd
  rw [List.reverse_append, List.dropWhile_append_of_pos fun c hc => h c (List.mem_reverse.1 hc)]

theorem dropWhileEnd_of_last {p : Char → Bool} (t : Str) (h : ∀ c, t.getLast? = some c → p c = false) :
    dropWhileEnd p t = t := by
  unfold dropWhileEnd
  rw [List.dropWhile_of_head _ (fun c hc => h c (by rwa [List.head?_reverse] at hc)), List.reverse_reverse]

theorem dropWhileEnd_cons {p : Char → Bool} {c : Char} (hc : p c = false) (r : Str) :
    dropWhileEnd p (c :: r) = c :: dropWhileEnd p r := by
  simp only [dropWhileEnd, List.reverse_cons, List.dropWhile_append]
  split
  · next h => simp [List.isEmpty_iff.1 h, hc]
  · simp

theorem trim_padded {p : Char → Bool} (l t r : Str) (hl : ∀ c ∈ l, p c = true) (hr : ∀ c ∈ r, p c = true)
    (h1 : ∀ c, t.head? = some c → p c = false) (h2 : ∀ c, t.getLast? = some c → p c = false) :
    dropWhileEnd p ((l ++ (t ++ r)).dropWhile p) = t := by
  rw [List.dropWhile_append_of_pos hl]
  cases t with
  | nil =>
    have : r.dropWhile p = [] := by simpa using List.dropWhile_append_of_pos (l₂ := []) hr
    rw [List.nil_append, this]; rfl
  | cons c s =>
    rw [List.dropWhile_of_head _ (by simpa using h1), dropWhileEnd_append_of_all _ _ hr, dropWhileEnd_of_last _ h2]

theorem trim_padded_of_all {p : Char → Bool} (l t r : Str) (hl : ∀ c ∈ l, p c = true) (hr : ∀ c ∈ r, p c = true)
    (h : ∀ c ∈ t, p c = false) : dropWhileEnd p ((l ++ (t ++ r)).dropWhile p) = t :=
  trim_padded l t r hl hr (fun c hc => h c (List.mem_of_mem_head? hc)) (fun c hc => h c (List.mem_of_getLast? hc))

theorem replicate_blank_all {p : Char → Bool} (hp : p ' ' = true) (k : Nat) :
    ∀ c ∈ List.replicate k ' ', p c = true := fun c hc => by rw [List.eq_of_mem_replicate hc]; exact hp

theorem strip_of_all (t : Str) (h : ∀ c ∈ t, isPySpace c = false) : strip t = t := by
  simpa [strip] using trim_padded_of_all (p := isPySpace) [] t [] (by simp) (by simp) h

theorem stripSp_padded (k k' : Nat) (t : Str) (h : ' ' ∉ t) :
    stripSp (List.replicate k ' ' ++ (t ++ List.replicate k' ' ')) = t :=
  trim_padded_of_all (p := (· == ' ')) _ t _ (replicate_blank_all rfl k) (replicate_blank_all rfl k')
    (fun c hc => by simp only [beq_eq_false_iff_ne, ne_eq]; rintro rfl; exact h hc)

/-- a right-aligned field -/
theorem stripSp_replicate_append (k : Nat) (t : Str) (h : ' ' ∉ t) : stripSp (List.replicate k ' ' ++ t) = t := by
  simpa using stripSp_padded k 0 t h

/-- a left-aligned field -/
theorem stripSp_append_replicate (t : Str) (k : Nat) (h : ' ' ∉ t) : stripSp (t ++ List.replicate k ' ') = t :=
  stripSp_padded 0 k t h

theorem rstrip_padded (x ws : Str) (hws : ∀ c ∈ ws, isPySpace c = true)
    (h : ∀ c, x.getLast? = some c → isPySpace c = false) : rstrip (x ++ ws) = x := by
  unfold rstrip
  rw [dropWhileEnd_append_of_all _ _ hws, dropWhileEnd_of_last _ h]

theorem numText_of_all (t : Str) (ha : ∀ c ∈ t, c.toNat < 128) (h : ∀ c ∈ t, isCSpace c = false) :
    numText t = t := by
  have hm : t.map foldChar = t := (List.map_congr_left fun c hc => foldChar_ascii (ha c hc)).trans (List.map_id' t)
  unfold numText
  simpa [hm] using trim_padded_of_all (p := isCSpace) [] t [] (by simp) (by simp) h

theorem numText_replicate_append (k : Nat) (t : Str) : numText (List.replicate k ' ' ++ t) = numText t := by
  unfold numText
  simp only [List.map_append, List.map_replicate, foldChar_ascii (c := ' ') (by decide),
    List.dropWhile_append_of_pos (replicate_blank_all (p := isCSpace) (by decide) k)]

theorem numText_cons {c : Char} (ha : c.toNat < 128) (hc : isCSpace c = false) (r : Str) :
    numText (c :: r) = c :: dropWhileEnd isCSpace (r.map foldChar) := by
  unfold numText
  simp only [List.map_cons, foldChar_ascii ha, List.dropWhile, hc]
  exact dropWhileEnd_cons hc _

theorem splitOnChar_ne_nil (sep : Char) (s : Str) : splitOnChar sep s ≠ [] := by
  cases s with
  | nil => simp [splitOnChar]
  | cons c r =>
    simp only [splitOnChar]
    split
    · simp
    · split <;> simp

theorem splitOnChar_append_sep (sep : Char) (a b : Str) :
    splitOnChar sep (a ++ sep :: b) = splitOnChar sep a ++ splitOnChar sep b := by
  induction a with
  | nil => simp [splitOnChar]
  | cons c r ih =>
    rw [List.cons_append, splitOnChar, splitOnChar, ih]
    by_cases hc : (c == sep) = true
    · simp [hc]
    · simp only [hc]
      cases hs : splitOnChar sep r with
      | nil => exact absurd hs (splitOnChar_ne_nil sep r)
      | cons p ps => simp

theorem splitOnChar_of_not_mem (sep : Char) (t : Str) (h : sep ∉ t) : splitOnChar sep t = [t] := by
  induction t with
  | nil => simp [splitOnChar]
  | cons c r ih =>
    have hc : (c == sep) = false := by
      simp only [beq_eq_false_iff_ne, ne_eq]; rintro rfl; exact h (by simp)
    simp only [splitOnChar, hc, Bool.false_eq_true, if_false, ih (fun hm => h (by simp [hm]))]

theorem splitOnChar_tok_sep (sep : Char) (t : Str) (h : sep ∉ t) (rest : Str) :
    splitOnChar sep (t ++ sep :: rest) = t :: splitOnChar sep rest := by
  rw [splitOnChar_append_sep, splitOnChar_of_not_mem sep t h]; rfl

theorem natRepr_eq_toDigits (n : Nat) : natRepr n = Nat.toDigits 10 n := Nat.toList_repr

theorem natOfDigits_eq_ofDigitChars (ds : List Char) : natOfDigits ds = Nat.ofDigitChars 10 ds 0 := by
  simp only [natOfDigits, Nat.ofDigitChars_eq_foldl, digitVal, Nat.mul_comm]

theorem natOfDigits_natRepr (n : Nat) : natOfDigits (natRepr n) = n := by
  rw [natOfDigits_eq_ofDigitChars, natRepr_eq_toDigits]; exact Nat.ofDigitChars_ten_toDigits

theorem natRepr_ne_nil (n : Nat) : natRepr n ≠ [] := by
  rw [natRepr_eq_toDigits]; exact Nat.toDigits_ne_nil

theorem natRepr_digits (n : Nat) : ∀ c ∈ natRepr n, isDigit c = true := fun c hc =>
  -- `isDigit c` unfolds to core's `c.isDigit`
  Nat.isDigit_of_mem_toDigits (by decide) (by decide) (natRepr_eq_toDigits n ▸ hc)

theorem natRepr_head?_ne_zero {n : Nat} : n ≠ 0 → (natRepr n).head? ≠ some '0' := by
  rw [natRepr_eq_toDigits]
  induction n using Nat.strongRecOn with
  | _ n ih =>
    intro hn
    rw [Nat.toDigits_eq_if (by decide)]
    split
    · simp [hn]
    · have hne : Nat.toDigits 10 (n / 10) ≠ [] := Nat.toDigits_ne_nil
      have := ih (n / 10) (by omega) (by omega)
      cases hd : Nat.toDigits 10 (n / 10) with
      | nil => exact absurd hd hne
      | cons a r => rw [hd] at this; simpa using this

theorem digitVal_lt {c : Char} (h : isDigit c = true) : digitVal c < 10 := by
  have := isDigit_iff.1 h
  show c.toNat - 48 < 10
  omega

theorem digitChar_digitVal {c : Char} (h : isDigit c = true) : (digitVal c).digitChar = c := by
  have := isDigit_iff.1 h
  rw [← Char.toNat_inj, Nat.toNat_digitChar_of_lt_ten (digitVal_lt h)]
  show 48 + (c.toNat - 48) = c.toNat
  omega

theorem natRepr_foldl_digits (ds : Str) (hd : ∀ c ∈ ds, isDigit c = true) : ∀ {acc : Nat}, 0 < acc →
    natRepr (ds.foldl (fun a c => a * 10 + digitVal c) acc) = natRepr acc ++ ds := by
  induction ds with
  | nil => intro acc _; simp
  | cons d ds ih =>
    intro acc h
    have hv := digitVal_lt (hd d List.mem_cons_self)
    rw [List.foldl_cons, ih (fun c hc => hd c (List.mem_cons_of_mem _ hc)) (by omega), natRepr_eq_toDigits,
      natRepr_eq_toDigits, Nat.mul_comm, ← Nat.toDigits_append_toDigits (by decide) h hv, Nat.toDigits_of_lt_base hv,
      digitChar_digitVal (hd d List.mem_cons_self), List.append_assoc]
    rfl

/-- **The numerals of the positive numbers** are the digit strings that start with `1`..`9` (`natOfDigits_natRepr`
names the `k`). -/
theorem posNumeral_iff (t : Str) :
    ((∃ c r, t = c :: r ∧ '1' ≤ c ∧ c ≤ '9') ∧ ∀ c ∈ t, isDigit c = true) ↔ ∃ k, 1 ≤ k ∧ t = natRepr k := by
  constructor
  · rintro ⟨⟨c, r, rfl, h19⟩, hd⟩
    obtain ⟨hc, hc0⟩ := digit19_iff.1 h19
    have hv : 1 ≤ digitVal c := by
      have := isDigit_iff.1 hc
      have : c.toNat ≠ 48 := fun e => hc0 (Char.toNat_inj.1 e)
      show 1 ≤ c.toNat - 48
      omega
    have := natRepr_foldl_digits r (fun x hx => hd x (List.mem_cons_of_mem _ hx)) hv
    rw [natRepr_eq_toDigits (digitVal c), Nat.toDigits_of_lt_base (digitVal_lt hc), digitChar_digitVal hc] at this
    refine ⟨_, Nat.pos_of_ne_zero fun h0 => ?_, this.symm⟩
    rw [h0, natRepr_eq_toDigits, Nat.toDigits_zero] at this
    cases this
    exact hc0 rfl
  · rintro ⟨k, hk, e⟩
    have hd := natRepr_digits k
    have h0 := natRepr_head?_ne_zero (Nat.ne_of_gt hk)
    rw [← e] at hd h0
    refine ⟨?_, hd⟩
    cases t with
    | nil => exact absurd e.symm (natRepr_ne_nil k)
    | cons c r => exact ⟨c, r, rfl, digit19_iff.2 ⟨hd c List.mem_cons_self, fun e => h0 (by rw [e]; rfl)⟩⟩

theorem natRepr_length_le_of_le {a N k : Nat} (h : a ≤ N) (hN : (natRepr N).length ≤ k) :
    (natRepr a).length ≤ k := by
  rw [natRepr_eq_toDigits] at hN ⊢
  have hpos : 0 < k := Nat.lt_of_lt_of_le Nat.length_toDigits_pos hN
  rw [Nat.length_toDigits_le_iff (by decide) hpos] at hN ⊢
  omega

theorem intRepr_eq_sign_append (i : Int) : intRepr i = (if i < 0 then ['-'] else []) ++ natRepr i.natAbs := by
  cases i with
  | ofNat n => simp [intRepr]
  | negSucc n => simp [intRepr, Int.negSucc_lt_zero]

theorem intRepr_of_nonneg {v : Int} (h : 0 ≤ v) : intRepr v = natRepr v.toNat := by
  obtain ⟨n, rfl⟩ := Int.eq_ofNat_of_zero_le h
  rfl

theorem intRepr_ne_nil (i : Int) : intRepr i ≠ [] := by
  rw [intRepr_eq_sign_append]
  exact List.append_ne_nil_of_right_ne_nil _ (natRepr_ne_nil _)

theorem intRepr_chars (i : Int) : ∀ c ∈ intRepr i, isDigit c = true ∨ c = '-' := by
  intro c hc
  rw [intRepr_eq_sign_append] at hc
  rcases List.mem_append.1 hc with h | h
  · split at h
    · exact Or.inr (List.mem_singleton.1 h)
    · cases h
  · exact Or.inl (natRepr_digits _ c h)

theorem not_mem_intRepr {c : Char} (hd : isDigit c = false) (hm : c ≠ '-') (i : Int) : c ∉ intRepr i := by
  intro hc
  rcases intRepr_chars i c hc with h | h
  · rw [hd] at h; cases h
  · exact hm h

theorem intRepr_no_space (i : Int) : ∀ c ∈ intRepr i, isPySpace c = false := by
  intro c hc
  rcases intRepr_chars i c hc with h | rfl
  · exact isDigit_not_space h
  · decide

theorem intRepr_getLast?_isDigit (i : Int) : ∀ c, (intRepr i).getLast? = some c → isDigit c = true := by
  intro c hc
  rw [intRepr_eq_sign_append, List.getLast?_append_of_ne_nil _ (natRepr_ne_nil _)] at hc
  exact natRepr_digits _ c (List.mem_of_getLast? hc)

theorem digitsGo_one (ds : Str) (h : ∀ c ∈ ds, isDigit c = true) : digitsGo 1 ds = some ds := by
  induction ds with
  | nil => rfl
  | cons c r ih =>
    simp only [digitsGo, h c (by simp), if_true, ih (fun x hx => h x (by simp [hx])), Option.map_some]

theorem digitsWithUnderscores_digits (ds : Str) (hne : ds ≠ []) (h : ∀ c ∈ ds, isDigit c = true) :
    digitsWithUnderscores ds = some ds := by
  cases ds with
  | nil => exact absurd rfl hne
  | cons c r =>
    simp only [digitsWithUnderscores, digitsGo, h c (by simp), if_true,
      digitsGo_one r (fun x hx => h x (by simp [hx])), Option.map_some]

theorem pyInt_unsigned (s : Str) (h : (numText s).head? ≠ some '-' ∧ (numText s).head? ≠ some '+') :
    pyInt s = (digitsWithUnderscores (numText s)).elim (.error .valueError) fun ds =>
      if ds.length > intMaxStrDigits then .error .valueError else .ok (natOfDigits ds : Int) := by
  -- `pyInt.match_1` is the sign-splitting `match` inside `pyInt`
  have hm : pyInt.match_1 (fun _ => Bool × List Char) (numText s)
      (fun r => (true, r)) (fun r => (false, r)) (fun r => (false, r)) = (false, numText s) := by
    split
    · next r heq => exact absurd (by rw [heq]; rfl) h.1
    · next r heq => exact absurd (by rw [heq]; rfl) h.2
    · rfl
  unfold pyInt
  simp only [hm, Bool.false_eq_true, if_false]
  cases digitsWithUnderscores (numText s) <;> rfl

theorem pyInt_digits (ds : Str) (hne : ds ≠ []) (h : ∀ c ∈ ds, isDigit c = true) :
    pyInt ds = if ds.length ≤ intMaxStrDigits then .ok (natOfDigits ds : Int) else .error .valueError := by
  have hstrip : numText ds = ds :=
    numText_of_all ds (fun c hc => isDigit_ascii (h c hc)) (fun c hc => isDigit_not_cspace (h c hc))
  have hd : ∀ c, ds.head? = some c → isDigit c = true := fun c hc => h c (List.mem_of_mem_head? hc)
  rw [pyInt_unsigned ds (by rw [hstrip]; exact ⟨fun e => absurd (hd _ e) (by decide), fun e => absurd (hd _ e) (by decide)⟩),
    hstrip, digitsWithUnderscores_digits ds hne h, Option.elim]
  by_cases hl : ds.length ≤ intMaxStrDigits
  · rw [if_pos hl, if_neg (by omega)]
  · rw [if_neg hl, if_pos (by omega)]

theorem pyInt_neg_digits (ds : Str) (hne : ds ≠ []) (h : ∀ c ∈ ds, isDigit c = true)
    (hlen : ds.length ≤ intMaxStrDigits) : pyInt ('-' :: ds) = .ok (-(natOfDigits ds : Int)) := by
  have hstrip : numText ('-' :: ds) = '-' :: ds :=
    numText_of_all _ (List.forall_mem_cons.2 ⟨by decide, fun c hc => isDigit_ascii (h c hc)⟩)
      (List.forall_mem_cons.2 ⟨by decide, fun c hc => isDigit_not_cspace (h c hc)⟩)
  unfold pyInt
  simp only [hstrip, digitsWithUnderscores_digits ds hne h]
  rw [if_neg (by omega)]
  simp

theorem pyInt_natRepr (n : Nat) (h : (natRepr n).length ≤ intMaxStrDigits) : pyInt (natRepr n) = .ok (n : Int) := by
  rw [pyInt_digits _ (natRepr_ne_nil n) (natRepr_digits n), if_pos h, natOfDigits_natRepr]

theorem pyInt_intRepr (i : Int) (h : (intRepr i).length ≤ intMaxStrDigits) : pyInt (intRepr i) = .ok i := by
  cases i with
  | ofNat n => exact pyInt_natRepr n h
  | negSucc n =>
    simp only [intRepr, List.length_cons] at h ⊢
    rw [pyInt_neg_digits _ (natRepr_ne_nil _) (natRepr_digits _) (by omega), natOfDigits_natRepr]
    rfl

theorem pyInt_replicate_append (k : Nat) (t : Str) : pyInt (List.replicate k ' ' ++ t) = pyInt t := by
  unfold pyInt
  rw [numText_replicate_append]

/-! Indexing and slicing.  A position is a variable tied to its value by an equation hypothesis (`hi`, `ha`, `hb`): at the
call it is a numeral or a sum that `rfl` or `simp` identifies, and the lemma applies without rewriting the goal first. -/

theorem getIdx_at {α} (pre : List α) (x : α) (rest : List α) (i : Nat) (hi : i = pre.length) :
    getIdx (pre ++ x :: rest) i = .ok x := by
  subst hi
  simp [getIdx]

theorem getIdxInt_at {α} (pre : List α) (x : α) (rest : List α) (i : Int) (hi : i = pre.length) :
    getIdxInt (pre ++ x :: rest) i = .ok x := by
  subst hi
  unfold getIdxInt
  rw [if_pos (by omega)]
  exact getIdx_at pre x rest _ (by simp)

theorem sliceInt_natCast {α} (l : List α) (a b : Nat) :
    sliceInt l (a : Int) (b : Int) = (l.drop a).take (b - a) := by
  -- a natural bound is clamped to the length
  have hn : ∀ i : Nat, (if (i : Int) < 0 then max ((i : Int) + l.length) 0 else min (i : Int) l.length).toNat
      = min i l.length := fun i => by
    rw [if_neg (Int.not_lt.2 (Int.natCast_nonneg i)), ← Lean.Omega.Int.ofNat_min, Int.toNat_natCast]
  simp only [sliceInt, hn]
  rcases Nat.le_total a l.length with h | h
  · -- `min b |l| - a = min (b - a) (|l| - a)`, and `l.drop a` has `|l| - a` elements
    rw [Nat.min_eq_left h, List.take_eq_take_min (i := b - a), List.length_drop, Nat.sub_min_sub_right]
  · rw [Nat.min_eq_right h, List.drop_length, List.drop_eq_nil_of_le h, List.take_nil, List.take_nil]

theorem sliceInt_length {α} (l : List α) (a : Nat) : sliceInt l (a : Int) (l.length : Int) = l.drop a := by
  rw [sliceInt_natCast, List.take_of_length_le (by rw [List.length_drop]; omega)]

theorem drop_take_col {α} (cols : List (List α)) (i : Nat) (f : List α) (hf : cols[i]? = some f) (a b : Nat)
    (ha : a = (cols.take i).flatten.length) (hb : b = a + f.length) :
    (cols.flatten.drop a).take (b - a) = f := by
  subst ha hb
  rw [List.flatten_eq_of_getElem? hf, Nat.add_sub_cancel_left, List.drop_left, List.take_left]

theorem slice_col (cols : List Str) (i : Nat) (f : Str) (hf : cols[i]? = some f) (a b : Nat)
    (ha : a = (cols.take i).flatten.length) (hb : b = a + f.length) : slice cols.flatten a b = f :=
  drop_take_col cols i f hf a b ha hb

theorem sliceInt_col {α} (cols : List (List α)) (i : Nat) (f : List α) (hf : cols[i]? = some f) (a b : Int)
    (ha : a = ((cols.take i).flatten.length : Nat)) (hb : b = a + (f.length : Nat)) :
    sliceInt cols.flatten a b = f := by
  subst ha hb
  rw [← Int.natCast_add, sliceInt_natCast]
  exact drop_take_col cols i f hf _ _ rfl rfl

theorem getIdxInt_col {α} (cols : List (List α)) (i : Nat) (x : α) (rest : List α) (hf : cols[i]? = some (x :: rest))
    (a : Int) (ha : a = ((cols.take i).flatten.length : Nat)) : getIdxInt cols.flatten a = .ok x := by
  rw [List.flatten_eq_of_getElem? hf]
  exact getIdxInt_at _ x _ a ha

/-- A literal is the list of its characters.  Facts about `cs "…"` are evaluated by the kernel (`decide +kernel`): the
elaborator's `decide`, `simp` and `rfl` are slow on `String.toList` of any literal.  The kernel in turn pays for every
occurrence of a literal it has to evaluate `.toList` of, and quadratically in its length.  But it takes `"…"` for
`String.ofList […]` at once, and the elaborator finds the list by unification: where a statement holds more than two or
three literals, or a long one, `simp (disch := rfl) only [cs, toList_lit]` first puts the characters in place of every
`cs "…"` of the goal.  The literal has to stand on the left: the other way round the elaborator compares the two sides
byte by byte. -/
theorem toList_lit {s : String} {l : List Char} (h : s = String.ofList l) : s.toList = l := h ▸ String.toList_ofList

/-- what `split()` yields: not empty, no white space -/
def IsToken (t : Str) : Prop := t ≠ [] ∧ ∀ c ∈ t, isPySpace c = false

instance (t : Str) : Decidable (IsToken t) := by unfold IsToken; infer_instance

theorem natRepr_isToken (n : Nat) : IsToken (natRepr n) :=
  ⟨natRepr_ne_nil n, fun c hc => isDigit_not_space (natRepr_digits n c hc)⟩

theorem intRepr_isToken (v : Int) : IsToken (intRepr v) := ⟨intRepr_ne_nil v, intRepr_no_space v⟩

-- `sufx` is named in statements about the lines of a molfile (`LineM`); what is said with it stands in its namespace
namespace LineM

/-- every token with a blank in front: what follows the first token of `joinSp` (`joinSp_cons`) -/
def sufx (ts : List Str) : Str := (ts.map (' ' :: ·)).flatten

theorem sufx_nil : sufx [] = [] := rfl
theorem sufx_cons (t : Str) (ts : List Str) : sufx (t :: ts) = ' ' :: t ++ sufx ts := by simp [sufx]
theorem sufx_append (a b : List Str) : sufx (a ++ b) = sufx a ++ sufx b := by simp [sufx]
theorem mem_sufx {c : Char} {ts : List Str} : c ∈ sufx ts ↔ ∃ t ∈ ts, c = ' ' ∨ c ∈ t := by
  simp only [sufx, ← List.flatMap_def, List.mem_flatMap, List.mem_cons]

theorem joinSp_cons : ∀ (ts : List Str) (t : Str), joinSp (t :: ts) = t ++ sufx ts := by
  intro ts
  induction ts with
  | nil => intro t; simp [joinSp, sufx]
  | cons t' ts ih =>
    intro t
    show t ++ ' ' :: joinSp (t' :: ts) = _
    rw [ih t', sufx_cons]; simp

theorem splitWs_go_tok (t cur : Str) (acc : List Str) (R : Str) (h : ∀ c ∈ t, isPySpace c = false) :
    splitWs.go cur acc (t ++ R) = splitWs.go (t.reverse ++ cur) acc R := by
  induction t generalizing cur with
  | nil => rfl
  | cons c r ih =>
    rw [List.cons_append, splitWs.go]
    simp only [h c (by simp), Bool.false_eq_true, if_false]
    rw [ih (c :: cur) (fun x hx => h x (by simp [hx]))]
    simp

theorem splitWs_go_sufx (toks : List Str) (cur : Str) (acc : List Str) (hc : cur ≠ []) (h : ∀ t ∈ toks, IsToken t) :
    splitWs.go cur acc (sufx toks) = acc.reverse ++ cur.reverse :: toks := by
  have hce : cur.isEmpty = false := by simpa using hc
  induction toks generalizing cur acc with
  | nil => simp [sufx_nil, splitWs.go, hce]
  | cons t ts ih =>
    have ht := h t (by simp)
    have hsp : isPySpace ' ' = true := by decide
    rw [sufx_cons, List.cons_append, splitWs.go]
    simp only [hsp, if_true, hce, Bool.false_eq_true, if_false]
    rw [splitWs_go_tok t [] _ _ ht.2, List.append_nil,
      ih t.reverse (cur.reverse :: acc) (by simpa using ht.1) (fun x hx => h x (by simp [hx])) (by simpa using ht.1)]
    simp

theorem splitWs_joinSp : ∀ (ts : List Str), (∀ x ∈ ts, IsToken x) → splitWs (joinSp ts) = ts
  | [], _ => rfl
  | t :: ts, h => by
    have ht := h t (by simp)
    rw [joinSp_cons]
    show splitWs.go [] [] (t ++ sufx ts) = _
    rw [splitWs_go_tok t [] [] _ ht.2, List.append_nil,
      splitWs_go_sufx ts t.reverse [] (by simpa using ht.1) (fun x hx => h x (by simp [hx]))]
    simp

/-- every token with a blank behind: what stands in front of a token of `joinSp` (`joinSp_sp`) -/
def sp (ts : List Str) : Str := (ts.map (· ++ [' '])).flatten

theorem sp_cons (t : Str) (ts : List Str) : sp (t :: ts) = t ++ ' ' :: sp ts := by simp [sp]

theorem joinSp_sp (pre : List Str) (t : Str) (rest : List Str) :
    joinSp (pre ++ t :: rest) = sp pre ++ joinSp (t :: rest) := by
  induction pre with
  | nil => rfl
  | cons a pre ih =>
    rw [List.cons_append, joinSp.eq_3 a _ (by simp), ih, sp_cons]
    simp

end LineM

end Tucan
