import TucanProofs.Lemmas.LineMachinery
import TucanProofs.Lemmas.Splice
import TucanProofs.Lemmas.V3000Lines
import TucanProofs.Lemmas.V3000File
import TucanProofs.Lemmas.GraphFromMolecule
import TucanProofs.Lemmas.Files
import TucanProofs.Lemmas.StarExample
import TucanProofs.Lemmas.MolfileText
/-!
# C07 — the V3000 reader decodes exactly the molecule the file states

About the V3000 reader model (`graphAttributesV3000`, `graphFromMolfileText`), which is tied to the code by the
correspondence on spec-derived renderings: first the whole connection table under every spelling and its text, then
the line machinery every spelling goes through, piece by piece.

What "every spelling" quantifies over in the theorems below, and what it leaves to the correspondence: blank runs
of any length and wraps at any position, properties in any order with other keywords in between, repeated keys,
explicit defaults, any indices.  Narrower than the format: integers are spelled as Python's `str` spells them (no
`CHG=+1`, no `01`), blanks are U+0020, the tokens before `ENDPTS=(` contain no `)` (no other parenthesised keyword
in front of it), coordinates are opaque tokens that `float()` accepts (their numeric value is not modelled), and an
index token is "a token `int()` reads as the index" (through the model's `pyInt`).  Those other spellings — Unicode
blanks and digits, signs, leading zeros — are compared with the interpreter on every run (`INT`, `FLOATOK`,
`SPLITWS`, `CHARCLASS` operations and the exotic-mutation stream of the C07/C08 workloads), not proved.
-/
namespace Tucan

/-- **C07, the whole connection table under every spelling.**  Header, version line, and the logical
`M  V30 ` lines (any line at position 4, the counts line, `BEGIN ATOM`, one line per real or star atom,
`END ATOM`, and — unless the bond count is zero — `BEGIN BOND`, one line per bond, `END BOND`), followed by
any further lines; every logical line written with arbitrary runs of blanks and split into physical lines
at arbitrary positions with a trailing dash; atom properties in any order with other keywords in between;
arbitrary (sparse, large, unordered) atom indices; multi-attachment bonds to star atoms.  The reader returns
one atom per non-star atom line, in file order, keyed by the written index, with the stated element, charge,
radical, mass and coordinate tokens, and one bond per bond line between real atoms plus one bond per listed
endpoint for a bond to a star atom, each with the stated type. -/
theorem C07_connection_table_every_spelling (h0 h1 h2 h3 : Str) (line4 : List Str) (countsRest : List Str)
    (atoms : List AtomEntry) (bonds : List BondEntry) (tailLines tailSpliced : List Str)
    (p4 pCounts pBeginAtom pEndAtom pBeginBond pEndBond : List Str) (pAtoms pBonds : List (List Str))
    (hhdr : ∀ h ∈ [h0, h1, h2, h3], (startsWith h v30Prefix && endsWithChar h '-') = false)
    (r4 : Rendered line4 p4)
    (rCounts : Rendered (cs "COUNTS" :: natRepr atoms.length :: natRepr bonds.length :: countsRest) pCounts)
    (rBA : Rendered [cs "BEGIN", cs "ATOM"] pBeginAtom) (rEA : Rendered [cs "END", cs "ATOM"] pEndAtom)
    (rBB : Rendered [cs "BEGIN", cs "BOND"] pBeginBond) (rEB : Rendered [cs "END", cs "BOND"] pEndBond)
    (rAtoms : AllRendered AtomEntry.toks atoms pAtoms)
    (rBonds : AllRendered BondEntry.toks bonds pBonds)
    (hatoms : ∀ e ∈ atoms, e.Ok) (hbonds : ∀ b ∈ bonds, b.Ok)
    (hcounts : (natRepr atoms.length).length ≤ intMaxStrDigits ∧ (natRepr bonds.length).length ≤ intMaxStrDigits)
    (hnostar2 : ∀ b ∈ bonds, ¬ ((starsOf atoms).contains (b.a1 - 1) ∧ (starsOf atoms).contains (b.a2 - 1)))
    (hendpoints : ∀ b ∈ bonds, ∀ t ∈ b.tuples (starsOf atoms),
      (alookup t.1 (atomDictOf atoms)).isSome ∧ (alookup t.2 (atomDictOf atoms)).isSome)
    (htail : concatLinesWithDash tailLines = .ok tailSpliced) (htailne : tailLines ≠ []) :
    graphAttributesV3000
      (h0 :: h1 :: h2 :: h3 :: (p4 ++ pCounts ++ pBeginAtom ++ pAtoms.flatten ++ pEndAtom ++
        (if bonds.isEmpty then [] else pBeginBond ++ pBonds.flatten ++ pEndBond) ++ tailLines)) =
      .ok (atomDictOf atoms, bondDictOf (starsOf atoms) bonds) :=
  graphAttributesV3000_spec h0 h1 h2 h3 line4 countsRest atoms bonds tailLines tailSpliced p4 pCounts pBeginAtom
    pEndAtom pBeginBond pEndBond pAtoms pBonds hhdr r4 rCounts rBA rEA rBB rEB rAtoms rBonds hatoms hbonds hcounts
    hnostar2 hendpoints htail htailne

/-- **Arbitrary unique atom indices are renumbered consecutively in file order**: `graph_from_molecule` turns an
atom dictionary with any distinct keys into a graph whose node `i` is the atom listed at position `i`, and a
bond between two keys into a bond between their positions, with its record. -/
theorem C07_consecutive_renumbering (atoms : List (Int × Atom)) (bonds : List ((Int × Int) × Bond))
    (hk : (atoms.map (·.1)).Nodup) (hb : GoodKeyBonds atoms bonds) (hz : ∀ a ∈ atoms, a.2.z.isSome) :
    ∃ g post, graphFromMolecule atoms bonds = .ok (g, post) ∧
      g.labels = List.range atoms.length ∧ g.WF ∧ g.Simple ∧
      (∀ i (hi : i < atoms.length), ∃ x, addInvariantCode (atoms[i]).2 = .ok x ∧ g.attrs? i = some x) ∧
      (∀ i j d, (j, d) ∈ g.nbrsD i ↔
        ∃ k l, keyPos atoms k = some i ∧ keyPos atoms l = some j ∧
          (((k, l), d) ∈ bonds ∨ ((l, k), d) ∈ bonds)) := by
  obtain ⟨g, post, h, r⟩ := graphFromMolecule_keys atoms bonds hk hb hz
  exact ⟨g, post, h, r.labels, r.wf, r.simple,
    fun i hi => ⟨_, GFM.addInvariantCode_ok (hz _ (List.getElem_mem hi)), r.attrs i hi⟩, r.nbrs⟩

/-- **Text level.**  The text of a V3000 file (any header lines, fourth line ending in `V3000`, any of the three
line-ending styles, the last line with or without terminator) is read by `graph_from_molfile_text` as the
graph `graph_from_molecule` builds from what the table states. -/
theorem C07_text_to_graph (text : Str) (lines : List Str) (atoms : List AtomEntry) (bonds : List BondEntry)
    (ht : IsTextOf text lines) (f : IsV3000File lines atoms bonds) (hb : V3BondsOk atoms bonds)
    (hver : ∀ l3, lines[3]? = some l3 → EndsInWord l3 (cs "V3000")) :
    graphFromMolfileText text =
      (graphFromMolecule (atomDictOf atoms) (bondDictOf (starsOf atoms) bonds) >>= fun q => pure q.1) := by
  rw [f.text_reads ht hver, f.reads hb]
  rfl

/-- **Continuation at any split point.**  However a logical line is split over physical lines — inside a
token, directly after a minus sign, before or after a blank, once or many times — splicing restores it
(the logical line itself must not end in a dash, which no atom or bond line does). -/
theorem C07_splice_any_split (parts : List Str) (last : Str) (rest : List Str)
    (h : endsWithChar (v30Prefix ++ parts.flatten ++ last) '-' = false) :
    concatLinesWithDash (physicalLines parts last ++ rest) = expectedSplice (v30Prefix ++ parts.flatten ++ last) rest :=
  splice_any_split parts last rest h

/-- lines that are not continuation lines (header, counts line, `M  END`, …) pass through unchanged -/
theorem C07_splice_passthrough (pre : List Str)
    (h : ∀ l ∈ pre, (startsWith l v30Prefix && endsWithChar l '-') = false) (rest : List Str) (hr : rest ≠ []) :
    concatLinesWithDash (pre ++ rest) = (concatLinesWithDash rest).map (pre ++ ·) :=
  have _ := hr
  splice_passthrough pre h rest

/-- **Arbitrary runs of blanks.**  Tokens separated by any number (≥ 1) of blanks, with leading and trailing
blanks, are recovered exactly. -/
theorem C07_tokenize_blank_runs (toks : List Str) (h : ∀ t ∈ toks, IsToken t) (lead trail : Nat) (gaps : List Nat) :
    tokenizeLine (joinBlanks lead trail toks gaps) = toks :=
  tokenizeLine_joinBlanks toks h lead trail gaps

/-- **The atom line under every spelling.**  Key=value properties in ANY order, other spec-defined keywords
(whatever their values, `EXACHG`, `RGROUPS=(…)`, … ) anywhere in between, repeated keys, explicitly written
defaults, `D` / `T`: the reader returns the stated element, the coordinate tokens, and for charge, radical
and mass the last value written under exactly that keyword, with 0 meaning "not set". -/
theorem C07_atom_line_every_spelling (idxTok sym x y z aamap : Str) (ps : List AtomProp)
    (hidx : NotKeyword idxTok) (haa : NotKeyword aamap)
    (hx : ∀ t ∈ [x, y, z], IsToken t ∧ pyFloatOk t = true)
    (hps : ∀ p ∈ ps, p.Ok)
    (hsym : sym ∈ elementSyms ∨ sym = ['D'] ∨ sym = ['T']) :
    ∃ zAt : Int, atomicNumberOf (detectHydrogenIsotopes sym).1 = .ok zAt ∧
    parseAtomAttributesV3000 (cs "M" :: cs "V30" :: idxTok :: sym :: x :: y :: z :: aamap :: ps.map AtomProp.tok) =
      .ok (some { sym := some (detectHydrogenIsotopes sym).1, z := some zAt, part := some 0,
                  x := some x, y := some y, zc := some z,
                  chg := lastNonZero (chgValues ps),
                  mass := if (detectHydrogenIsotopes sym).2 = 0 then lastNonZero (massValues ps)
                          else some (detectHydrogenIsotopes sym).2,
                  rad := lastNonZero (radValues ps) }) :=
  parseAtomAttributes_general idxTok sym x y z aamap ps hidx.noKey haa.noKey hx hps hsym

/-- star atoms are not atoms of the molecule -/
theorem C07_star_atom (idxTok : Str) (rest : List Str) :
    parseAtomAttributesV3000 (cs "M" :: cs "V30" :: idxTok :: ['*'] :: rest) = .ok none :=
  parseAtomAttributes_star idxTok rest

/-- **Multi-attachment bonds expand to one bond per listed endpoint** (`ENDPTS=(n a₁ … aₙ)` anywhere among
the optional keywords of the bond line). -/
theorem C07_endpts_expansion (pre post : List Str) (ends : List Nat) (start : Int) (hne : ends ≠ [])
    (hpre : ∀ t ∈ pre, IsToken t ∧ ¬ isInfix (cs "ENDPTS=(") t = true ∧ ')' ∉ t)
    (hpost : ∀ t ∈ post, IsToken t ∧ ')' ∉ t)
    (hsize : ∀ e ∈ ends.length :: ends, (natRepr e).length ≤ intMaxStrDigits) :
    parseBondLineWithStarAtom (pre ++ endptsToks ends ++ post) start =
      .ok (ends.map fun (e : Nat) => (start, (e : Int) - 1)) :=
  parseBondLineWithStarAtom_endpts pre post ends start hne (fun t ht => Bool.eq_false_iff.2 (hpre t ht).2.1)
    (fun t ht => (hpost t ht).2) hsize

/-- integer fields read back -/
theorem C07_int_fields (i : Int) (h : (intRepr i).length ≤ intMaxStrDigits) : pyInt (intRepr i) = .ok i :=
  pyInt_intRepr i h

/-- every element symbol of the table is known to the reader, with atomic number 1 … 118 -/
theorem C07_symbols_known (s : Str) (h : s ∈ elementSyms) : ∃ z : Int, atomicNumberOf s = .ok z ∧ 1 ≤ z ∧ z ≤ 118 :=
  atomicNumberOf_elementSyms s h

/-- `D` and `T` denote hydrogen of mass 2 and 3; every other symbol denotes itself -/
theorem C07_hydrogen_isotopes :
    detectHydrogenIsotopes ['D'] = (['H'], 2) ∧ detectHydrogenIsotopes ['T'] = (['H'], 3) ∧
    ∀ s, s ≠ ['D'] → s ≠ ['T'] → detectHydrogenIsotopes s = (s, 0) :=
  ⟨rfl, rfl, fun _ => LineM.detect_of_ne⟩

/-- an explicitly written default means the same as omitting the keyword; otherwise the last value wins -/
theorem C07_explicit_zero_is_default (vals : List Int) :
    lastNonZero (vals ++ [0]) = none ∧ lastNonZero [] = none ∧ ∀ v, v ≠ 0 → lastNonZero (vals ++ [v]) = some v :=
  ⟨LineM.lastNonZero_concat vals 0, rfl, fun v hv => (LineM.lastNonZero_concat vals v).trans (if_neg hv)⟩

/-- **`graph_from_file` reads what `graph_from_molfile_text` reads.**  The file is opened in text mode, so Python's
universal-newlines translation rewrites `\r\n` and a lone `\r` to `\n` before the text is split into lines;
`splitlines` treats exactly those as one terminator, so for EVERY decoded content the translated text splits into
the same lines and the graph (or the exception) is the same.  Every theorem about `graphFromMolfileText` is thereby
a theorem about files on disk; not modelled: the filesystem and the decoding of the bytes (the suffix check in front
of the `open` is `C07_graph_from_file_suffix`). -/
theorem C07_graph_from_file (t : Str) :
    splitLines (universalNewlines t) = splitLines t ∧ graphFromFileContent t = graphFromMolfileText t :=
  ⟨splitLines_universalNewlines t, graphFromFileContent_eq t⟩

/-- … and the suffix check in front of it: `.mol` is read, every other suffix is refused with `IOError` before the
file is opened -/
theorem C07_graph_from_file_suffix (suffix t : Str) :
    (suffix = cs ".mol" → graphFromFile suffix t = graphFromMolfileText t) ∧
    (suffix ≠ cs ".mol" → graphFromFile suffix t = .error .osError) :=
  ⟨fun h => (graphFromFile_eq suffix t).trans (if_pos h), fun h => (graphFromFile_eq suffix t).trans (if_neg h)⟩

/-- non-vacuity of `C07_connection_table_every_spelling` with a star atom: atom indices 1, 2, 5 (star), 9, a bond
`9–5` with `ATTACH=ALL ENDPTS=(2 1 2)`: three atoms come back (keys 0, 1, 8) and three bonds, one from the iron
to each listed endpoint -/
example : graphAttributesV3000 StarExample.lines =
      .ok (atomDictOf StarExample.atoms, bondDictOf (starsOf StarExample.atoms) StarExample.bonds) ∧
    (atomDictOf StarExample.atoms).map (·.1) = [0, 1, 8] ∧
    (bondDictOf (starsOf StarExample.atoms) StarExample.bonds).map (·.1) = [(0, 1), (8, 0), (8, 1)] :=
  ⟨StarExample.reads.1, StarExample.reads.2.1, StarExample.reads.2.2.2⟩

/-- `r = .ok l`, as a `Bool` for `decide` -/
def okEq (r : PyM (List Int)) (l : List Int) : Bool := match r with
  | .ok l' => l' == l
  | .error _ => false

/-- keyword detection is exact: `EXACHG=1` is not a charge (defect F3 of DESIGN.md §6), in any order -/
example : okEq (keywordValues (cs "CHG") [cs "EXACHG=1", cs "CHG=-1"]) [-1] = true ∧
    okEq (keywordValues (cs "CHG") [cs "CHG=-1", cs "EXACHG=1"]) [-1] = true ∧
    okEq (keywordValues (cs "MASS") [cs "CHG=-1", cs "RAD=2"]) [] = true := by
  simp (disch := rfl) only [cs, toList_lit]
  decide +kernel

/-- non-vacuity: the translation does change the text -/
example : universalNewlines ['a', '\r', '\n', 'b', '\r', 'c', '\n'] = ['a', '\n', 'b', '\n', 'c', '\n'] :=
  universalNewlines_example

end Tucan
