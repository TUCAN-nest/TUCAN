import TucanProofs.Lemmas.ParserDenotation
/-!
# Exactly which strings `graph_from_tucan` accepts

A string is accepted if and only if it is a sentence of the grammar and its syntax tree is *valid* (`Ast.Valid`): every
bond index and every attribute index refers to an existing atom, no bond joins an atom to itself, no attribute key is
set twice on one atom (within one block or across blocks), and no integer literal exceeds CPython's conversion limit of
4300 digits (the one place where the interpreter, not the grammar, draws a line).

On the tree of a sentence each listener is an equation: it returns a closed form of the tree (together `Ast.state`)
unless a condition of its own fails, and then it raises `TucanParserException`.  With the bound checks of `to_graph`
this makes `graph_from_tucan` on a sentence one equation (`graphFromTucan_of_sentence`): `to_graph` on the state of the
tree if the tree is valid, `TucanParserException` if not.  Acceptance and the rejection kind (`C10_reject_kind`) are
read off it.
-/
namespace Tucan

/-- the value of an integer literal of the grammar (a digit string) -/
def litVal (t : Str) : Nat := natOfDigits t

theorem litVal_natRepr (k : Nat) : litVal (natRepr k) = k := natOfDigits_natRepr k

/-- the number of atoms the formula states: the sum of the counts, a missing count being 1 -/
def Ast.atomCount (ast : Ast) : Nat :=
  (ast.formula.map fun p => match p.2 with | none => 1 | some c => litVal c).sum

/-- every integer literal of the tree: counts, bond indices, attribute indices and values -/
def Ast.literals (ast : Ast) : List Str :=
  ast.formula.filterMap (·.2) ++ ast.tuples.flatMap (fun p => [p.1, p.2]) ++
    ast.attrs.flatMap (fun b => b.1 :: b.2.map (·.2))

/-- the (atom index, attribute key) pairs the attribute blocks set, in order -/
def Ast.settings (ast : Ast) : List (Nat × Str) :=
  ast.attrs.flatMap fun b => b.2.map fun kv => (litVal b.1, kv.1)

/-- the attribute settings of a tree with their values: (atom index, key, value) -/
def Ast.valuedSettings (ast : Ast) : List (Nat × Str × Nat) :=
  ast.attrs.flatMap fun b => b.2.map fun kv => (litVal b.1, kv.1, litVal kv.2)

structure Ast.Valid (ast : Ast) : Prop where
  /-- no literal is longer than CPython's `int()` accepts -/
  lits : ∀ t ∈ ast.literals, t.length ≤ intMaxStrDigits
  /-- bond indices refer to existing atoms, and no bond joins an atom to itself -/
  tuples : ∀ p ∈ ast.tuples, litVal p.1 ≤ ast.atomCount ∧ litVal p.2 ≤ ast.atomCount ∧ litVal p.1 ≠ litVal p.2
  /-- attribute indices refer to existing atoms -/
  attrIdx : ∀ b ∈ ast.attrs, litVal b.1 ≤ ast.atomCount
  /-- no attribute is set twice on one atom -/
  once : ast.settings.Nodup

instance (ast : Ast) : Decidable ast.Valid :=
  decidable_of_iff (_ ∧ _ ∧ _ ∧ _) ⟨fun ⟨a, b, c, d⟩ => ⟨a, b, c, d⟩, fun h => ⟨h.lits, h.tuples, h.attrIdx, h.once⟩⟩

end Tucan

namespace Tucan.Acc
open Tucan RejectKind

theorem listenerInt_lit {t : Str} (h : Lit t) :
    listenerInt t = if t.length ≤ intMaxStrDigits then .ok (litVal t : Int) else .error .tucanParser := by
  have hne : t ≠ [] := by
    obtain ⟨⟨c, r, rfl, -⟩, -⟩ := h
    exact List.cons_ne_nil _ _
  unfold listenerInt
  rw [pyInt_digits t hne h.2]
  by_cases hl : t.length ≤ intMaxStrDigits
  · rw [if_pos hl, if_pos hl]
    rfl
  · rw [if_neg hl, if_neg hl]

theorem listenerInt_ok_short {t : Str} (h : Lit t) {i : Int} (hi : listenerInt t = .ok i) :
    t.length ≤ intMaxStrDigits := by
  rw [listenerInt_lit h] at hi
  exact (PyM.ite_eq_ok.1 hi).1

theorem Lit.numeral {t : Str} (h : Lit t) : 1 ≤ litVal t ∧ t = natRepr (litVal t) := by
  obtain ⟨k, hk, e⟩ := lit_iff.1 h
  rw [e, litVal_natRepr]
  exact ⟨hk, rfl⟩

def itemCount (p : Str × Option Str) : Nat := match p.2 with | none => 1 | some c => litVal c

/-- the record the formula listener creates for an element symbol -/
def formulaAtom (sym : Str) : Atom :=
  { sym := some sym, z := (elementZ sym).map fun z : Nat => (z : Int), part := some 0 }

def expand (p : Str × Option Str) : List Atom := List.replicate (itemCount p) (formulaAtom p.1)

abbrev itemShort (p : Str × Option Str) : Prop := ∀ c, p.2 = some c → c.length ≤ intMaxStrDigits

theorem listenFormula_eq {f : List (Str × Option Str)} (hf : FormulaOk f) :
    listenFormula f = if ∀ p ∈ f, itemShort p then .ok (f.flatMap expand) else .error .tucanParser := by
  unfold listenFormula
  rw [PyM.foldlM_guard_append (ok := itemShort) (g := expand), List.nil_append]
  rintro ⟨sym, cnt⟩ hp acc
  obtain ⟨hz, hc⟩ := hf _ hp
  simp only at hz hc
  obtain ⟨z, hez⟩ := Option.isSome_iff_exists.1 hz
  cases cnt with
  | none => simp [hez, expand, formulaAtom, itemCount]
  | some c =>
    simp only [listenerInt_lit (hc c rfl), hez, expand, formulaAtom, itemCount, itemShort, PyM.ite_bind, PyM.ok_bind,
      PyM.error_bind, PyM.pure_eq_ok, Int.toNat_natCast, Option.map_some, Option.some.injEq, forall_eq']

theorem mem_flatMap_expand {f : List (Str × Option Str)} {a : Atom} (ha : a ∈ f.flatMap expand) :
    ∃ p ∈ f, a = formulaAtom p.1 := by
  obtain ⟨p, hp, ha⟩ := List.mem_flatMap.1 ha
  exact ⟨p, hp, (List.mem_replicate.1 ha).2⟩

abbrev tupleOk (p : Str × Str) : Prop :=
  p.1.length ≤ intMaxStrDigits ∧ p.2.length ≤ intMaxStrDigits ∧ litVal p.1 ≠ litVal p.2

def tupleBond (p : Str × Str) : List (Int × Int) := [((litVal p.1 : Int) - 1, (litVal p.2 : Int) - 1)]

theorem listenTuples_eq {tu : List (Str × Str)} (htu : TuplesOk tu) :
    listenTuples tu = if ∀ p ∈ tu, tupleOk p then .ok (tu.flatMap tupleBond) else .error .tucanParser := by
  unfold listenTuples
  rw [PyM.foldlM_guard_append (ok := tupleOk) (g := tupleBond), List.nil_append]
  rintro ⟨a, b⟩ hp acc
  obtain ⟨ha, hb⟩ := htu _ hp
  -- the conversions are guards, and a `do` block of guards is the guard of the conjunction
  simp only [listenerInt_lit ha, listenerInt_lit hb, tupleBond, PyM.ite_bind, PyM.ok_bind, PyM.error_bind,
    PyM.pure_eq_ok, ite_and, ite_not, beq_iff_eq, Int.natCast_inj]

theorem mem_flatMap_tupleBond {tu : List (Str × Str)} {b : Int × Int} :
    b ∈ tu.flatMap tupleBond ↔ ∃ p ∈ tu, b = ((litVal p.1 : Int) - 1, (litVal p.2 : Int) - 1) := by
  simp only [List.mem_flatMap, tupleBond, List.mem_singleton]

/-- the attribute blocks as one list of settings `(index text, key, value text)` -/
def flatSettings (ats : List (Str × List (Str × Str))) : List (Str × Str × Str) :=
  ats.flatMap fun b => b.2.map fun kv => (b.1, kv.1, kv.2)

/-- what the listener does with one setting -/
def attrStep (acc : List (Int × Atom)) (x : Str × Str × Str) : PyM (List (Int × Atom)) := do
  let i ← listenerInt x.1
  let value ← listenerInt x.2.2
  let key ← match attrKeyOf x.2.1 with
    | some key => pure key
    | none => .error .keyError
  let cur := (alookup (i - 1) acc).getD {}
  let cur' ← setAttr key value cur
  pure (ainsert (i - 1) cur' acc)

theorem listenAttrs_flat (ats : List (Str × List (Str × Str))) :
    listenAttrs ats = (flatSettings ats).foldlM attrStep [] := by
  unfold listenAttrs flatSettings
  generalize ([] : List (Int × Atom)) = acc
  induction ats generalizing acc with
  | nil => rfl
  | cons b r ih =>
    rw [List.foldlM_cons, List.flatMap_cons, List.foldlM_append, List.foldlM_map]
    exact bind_congr fun acc' => ih acc'

def fieldOf (k : Str) (a : Atom) : Option Int := if k = "mass".toList then a.mass else a.rad

def setField (k : Str) (v : Int) (a : Atom) : Atom :=
  if k = "mass".toList then { a with mass := some v } else { a with rad := some v }

theorem rad_ne_mass : "rad".toList ≠ "mass".toList := by decide +kernel

theorem fieldOf_mass (a : Atom) : fieldOf "mass".toList a = a.mass := if_pos rfl

theorem fieldOf_rad (a : Atom) : fieldOf "rad".toList a = a.rad := if_neg rad_ne_mass

theorem attrKeyOf_keys : attrKeyOf "mass".toList = some "mass" ∧ attrKeyOf "rad".toList = some "rad" := by
  unfold attrKeyOf
  rw [String.ofList_toList, String.ofList_toList, key_maps.2, key_maps.1]
  decide +kernel

theorem setAttr_key {k : Str} (hk : KeyText k) (v : Int) (a : Atom) :
    ∃ key, attrKeyOf k = some key ∧
      setAttr key v a = if (fieldOf k a).isSome then .error .tucanParser else .ok (setField k v a) := by
  -- `hk` is kept and rewritten with: an `rfl` pattern makes `rcases` take the text literal apart
  rcases hk with hk | hk
  · refine ⟨"mass", hk ▸ attrKeyOf_keys.1, ?_⟩
    simp only [hk, setAttr, fieldOf, setField, beq_self_eq_true, if_true]
    rfl
  · refine ⟨"rad", hk ▸ attrKeyOf_keys.2, ?_⟩
    have : ("rad" == "mass") = false := by decide
    simp only [hk, setAttr, fieldOf, setField, this, Bool.false_eq_true, if_false, beq_self_eq_true, if_true,
      if_neg rad_ne_mass]
    rfl

theorem fieldOf_setField {k k' : Str} (hk : KeyText k) (hk' : KeyText k') (v : Int) (a : Atom) :
    fieldOf k' (setField k v a) = if k' = k then some v else fieldOf k' a := by
  unfold fieldOf setField
  rcases hk with hk | hk <;> rcases hk' with hk' | hk' <;>
    simp only [hk, hk', if_true, if_neg rad_ne_mass, if_neg rad_ne_mass.symm]

theorem onlyMassRad_setField {a : Atom} (h : OnlyMassRad a) (k : Str) (v : Int) : OnlyMassRad (setField k v a) := by
  obtain ⟨a1, a2, a3, a4, a5, a6, a7, a8, a9, a10⟩ := h
  unfold setField
  split <;> exact ⟨a1, a2, a3, a4, a5, a6, a7, a8, a9, a10⟩

theorem fieldOf_empty (k : Str) : fieldOf k {} = none := by
  unfold fieldOf
  split <;> rfl

/-- the (atom index, key, value) triple a setting states -/
def valKey (x : Str × Str × Str) : Nat × Str × Nat := (litVal x.1, x.2.1, litVal x.2.2)

def keyOf (y : Nat × Str × Nat) : Nat × Str := (y.1, y.2.1)

def SettingLit (x : Str × Str × Str) : Prop := Lit x.1 ∧ KeyText x.2.1 ∧ Lit x.2.2

/-- the record of atom `n` (1-based) -/
def recOf (acc : List (Int × Atom)) (n : Nat) : Atom := (alookup ((n : Int) - 1) acc).getD {}

def put (acc : List (Int × Atom)) (x : Str × Str × Str) : List (Int × Atom) :=
  ainsert ((litVal x.1 : Int) - 1) (setField x.2.1 (litVal x.2.2) (recOf acc (litVal x.1))) acc

/-- the listener state of a tree: what the three listeners return, if they return -/
def _root_.Tucan.Ast.state (ast : Ast) : ListenerState :=
  ⟨ast.formula.flatMap expand, ast.tuples.flatMap tupleBond, (flatSettings ast.attrs).foldl put []⟩

theorem fieldOf_recOf_put (acc : List (Int × Atom)) {x : Str × Str × Str} (hx : KeyText x.2.1) (n : Nat) {k : Str}
    (hk : KeyText k) :
    fieldOf k (recOf (put acc x) n) =
      if (n, k) = keyOf (valKey x) then some (litVal x.2.2 : Int) else fieldOf k (recOf acc n) := by
  unfold put recOf
  rw [alookup_ainsert]
  by_cases hn : n = litVal x.1
  · subst hn
    simp [fieldOf_setField hx hk, keyOf, valKey]
  · have : ((litVal x.1 : Int) - 1 == (n : Int) - 1) = false := by
      simp only [beq_eq_false_iff_ne, ne_eq]; omega
    simp [this, keyOf, valKey, hn]

/-- `acc` is the dictionary after the settings `Q` (atom index, key, value), no two of which set the same field of the same
atom: the record of atom `n` holds `v` in field `k` exactly when `(n, k, v) ∈ Q` -/
structure Inv (acc : List (Int × Atom)) (Q : List (Nat × Str × Nat)) : Prop where
  keys : (Q.map keyOf).Nodup
  nodup : (acc.map (·.1)).Nodup
  recs : ∀ e ∈ acc, OnlyMassRad e.2 ∧ ∃ s ∈ Q, e.1 = (s.1 : Int) - 1
  val : ∀ (n : Nat) (k : Str), KeyText k → ∀ v : Int,
    fieldOf k (recOf acc n) = some v ↔ ∃ w : Nat, (w : Int) = v ∧ (n, k, w) ∈ Q

theorem Inv.nil : Inv [] [] :=
  ⟨.nil, .nil, fun e he => (by cases he), fun n k _ v => (by simp [recOf, fieldOf_empty])⟩

theorem Inv.isSome {acc : List (Int × Atom)} {Q : List (Nat × Str × Nat)} (inv : Inv acc Q) (n : Nat) {k : Str}
    (hk : KeyText k) : (fieldOf k (recOf acc n)).isSome ↔ (n, k) ∈ Q.map keyOf := by
  rw [Option.isSome_iff_exists, List.mem_map]
  constructor
  · rintro ⟨v, hv⟩
    obtain ⟨w, _, hw⟩ := (inv.val n k hk v).1 hv
    exact ⟨_, hw, rfl⟩
  · rintro ⟨⟨n', k', w⟩, hw, e⟩
    obtain ⟨rfl, rfl⟩ := Prod.mk.inj e
    exact ⟨w, (inv.val _ _ hk w).2 ⟨w, rfl, hw⟩⟩

theorem attrStep_lit (acc : List (Int × Atom)) {x : Str × Str × Str} (hx : SettingLit x) :
    attrStep acc x =
      if x.1.length ≤ intMaxStrDigits ∧ x.2.2.length ≤ intMaxStrDigits ∧
          ¬ (fieldOf x.2.1 (recOf acc (litVal x.1))).isSome then
        .ok (put acc x)
      else .error .tucanParser := by
  obtain ⟨hi, hk, hv⟩ := hx
  obtain ⟨key, hkey, hset⟩ := setAttr_key hk (litVal x.2.2) (recOf acc (litVal x.1))
  -- `unfold`, not `simp only [recOf]`: that leaves the old `Decidable` instance on the condition, and `ite_and` fails
  unfold recOf at hset
  unfold attrStep put recOf
  simp only [listenerInt_lit hi, listenerInt_lit hv, hkey, hset, PyM.ite_bind, PyM.ok_bind, PyM.error_bind,
    PyM.pure_eq_ok, ite_and, ite_not]

theorem Inv.put {acc : List (Int × Atom)} {Q : List (Nat × Str × Nat)} (inv : Inv acc Q) {x : Str × Str × Str}
    (hx : KeyText x.2.1) (hnew : keyOf (valKey x) ∉ Q.map keyOf) : Inv (put acc x) (Q ++ [valKey x]) := by
  refine ⟨?_, nodup_keys_ainsert inv.nodup, fun e he => ?_, fun n k hk v => ?_⟩
  · rw [List.map_append, List.nodup_append]
    exact ⟨inv.keys, List.pairwise_singleton _ _, fun a ha b hb e => hnew (List.mem_singleton.1 hb ▸ e ▸ ha)⟩
  · rcases eq_or_mem_of_mem_ainsert he with rfl | he
    · exact ⟨onlyMassRad_setField (.getD fun _ hl => (inv.recs _ (mem_of_alookup hl)).1) _ _, valKey x, by simp, rfl⟩
    · obtain ⟨h1, s, hs, h2⟩ := inv.recs e he
      exact ⟨h1, s, List.mem_append_left _ hs, h2⟩
  · rw [fieldOf_recOf_put acc hx n hk]
    simp only [List.mem_append, List.mem_singleton]
    split
    · next h =>
      -- the field `x` sets: no triple of `Q` speaks of it
      obtain ⟨rfl, rfl⟩ := Prod.mk.inj h
      constructor
      · intro hv
        exact ⟨litVal x.2.2, Option.some.inj hv, Or.inr rfl⟩
      · rintro ⟨w, rfl, hq | hq⟩
        · exact absurd (List.mem_map.2 ⟨_, hq, rfl⟩) hnew
        · rw [show w = litVal x.2.2 from congrArg (·.2.2) hq]
    · next h =>
      rw [inv.val n k hk v]
      exact exists_congr fun w => and_congr_right fun _ =>
        ⟨Or.inl, fun h' => h'.resolve_right fun e => h (congrArg keyOf e)⟩

/-- **The attribute listener's loop**, started on a dictionary that is what the settings `Q` produce. -/
theorem attrFold_eq (L : List (Str × Str × Str)) {Q : List (Nat × Str × Nat)} {acc : List (Int × Atom)}
    (inv : Inv acc Q) (hL : ∀ x ∈ L, SettingLit x) :
    L.foldlM attrStep acc =
      (if (∀ x ∈ L, x.1.length ≤ intMaxStrDigits ∧ x.2.2.length ≤ intMaxStrDigits) ∧
          ((Q ++ L.map valKey).map keyOf).Nodup then .ok (L.foldl put acc)
        else .error .tucanParser) ∧
    (((Q ++ L.map valKey).map keyOf).Nodup → Inv (L.foldl put acc) (Q ++ L.map valKey)) := by
  induction L generalizing Q acc with
  | nil => simpa using ⟨inv.keys, fun _ => inv⟩
  | cons x L ih =>
    have hx := hL x List.mem_cons_self
    have e : Q ++ [valKey x] ++ L.map valKey = Q ++ (x :: L).map valKey := List.append_assoc ..
    rw [List.foldlM_cons, attrStep_lit acc hx, List.foldl_cons, ← e]
    by_cases hnew : keyOf (valKey x) ∈ Q.map keyOf
    · have hnd : ¬ ((Q ++ [valKey x] ++ L.map valKey).map keyOf).Nodup := fun h => by
        rw [List.map_append, List.map_append] at h
        exact (List.nodup_append.1 (List.nodup_append.1 h).1).2.2 _ hnew _ List.mem_cons_self rfl
      rw [if_neg fun h => h.2.2 ((inv.isSome _ hx.2.1).2 hnew), if_neg fun h => hnd h.2]
      exact ⟨rfl, fun h => absurd h hnd⟩
    · -- the settings after `x` are read from the dictionary with `x` stored
      obtain ⟨ih1, ih2⟩ := ih (inv.put hx.2.1 hnew) fun y hy => hL y (List.mem_cons_of_mem _ hy)
      refine ⟨?_, ih2⟩
      by_cases hs : x.1.length ≤ intMaxStrDigits ∧ x.2.2.length ≤ intMaxStrDigits
      · rw [if_pos ⟨hs.1, hs.2, mt (inv.isSome _ hx.2.1).1 hnew⟩, PyM.ok_bind, ih1]
        simp only [List.forall_mem_cons, hs, true_and]
      · rw [if_neg fun h => hs ⟨h.1, h.2.1⟩, if_neg fun h => hs (h.1 x List.mem_cons_self)]
        rfl

theorem settings_eq_map (ast : Ast) : ast.settings = ast.valuedSettings.map keyOf := by
  simp only [Ast.settings, Ast.valuedSettings, List.map_flatMap, List.map_map]
  rfl

theorem valuedSettings_eq (ast : Ast) : ast.valuedSettings = (flatSettings ast.attrs).map valKey := by
  simp only [Ast.valuedSettings, flatSettings, List.map_flatMap, List.map_map]
  rfl

theorem mem_flatSettings {ats : List (Str × List (Str × Str))} {x : Str × Str × Str} :
    x ∈ flatSettings ats ↔ ∃ b ∈ ats, ∃ kv ∈ b.2, x = (b.1, kv.1, kv.2) := by
  simp only [flatSettings, List.mem_flatMap, List.mem_map, eq_comm]

abbrev blockShort (b : Str × List (Str × Str)) : Prop :=
  b.1.length ≤ intMaxStrDigits ∧ ∀ kv ∈ b.2, kv.2.length ≤ intMaxStrDigits

theorem flat_short_iff {ats : List (Str × List (Str × Str))} (ha : AttrsOk ats) :
    (∀ x ∈ flatSettings ats, x.1.length ≤ intMaxStrDigits ∧ x.2.2.length ≤ intMaxStrDigits) ↔
      ∀ b ∈ ats, blockShort b := by
  constructor
  · intro h b hb
    obtain ⟨_, hne, _⟩ := ha b hb
    obtain ⟨kv0, hkv0⟩ := List.exists_mem_of_ne_nil _ hne
    refine ⟨(h _ (mem_flatSettings.2 ⟨b, hb, kv0, hkv0, rfl⟩)).1, fun kv hkv => ?_⟩
    exact (h _ (mem_flatSettings.2 ⟨b, hb, kv, hkv, rfl⟩)).2
  · intro h x hx
    obtain ⟨b, hb, kv, hkv, rfl⟩ := mem_flatSettings.1 hx
    exact ⟨(h b hb).1, (h b hb).2 kv hkv⟩

theorem flat_lit {ats : List (Str × List (Str × Str))} (ha : AttrsOk ats) :
    ∀ x ∈ flatSettings ats, SettingLit x := by
  intro x hx
  obtain ⟨b, hb, kv, hkv, rfl⟩ := mem_flatSettings.1 hx
  obtain ⟨h1, _, h3⟩ := ha b hb
  exact ⟨h1, (h3 kv hkv).1, (h3 kv hkv).2⟩

theorem forall_literals_iff (P : Str → Prop) (ast : Ast) :
    (∀ t ∈ ast.literals, P t) ↔
      (∀ p ∈ ast.formula, ∀ c, p.2 = some c → P c) ∧ (∀ p ∈ ast.tuples, P p.1 ∧ P p.2) ∧
      (∀ b ∈ ast.attrs, P b.1 ∧ ∀ kv ∈ b.2, P kv.2) := by
  simp only [Ast.literals, List.mem_append, List.mem_filterMap, List.mem_flatMap, List.mem_cons, List.mem_map,
    List.not_mem_nil, or_false]
  constructor
  · intro h
    exact ⟨fun p hp c hc => h c (Or.inl (Or.inl ⟨p, hp, hc⟩)),
      fun p hp => ⟨h _ (Or.inl (Or.inr ⟨p, hp, Or.inl rfl⟩)), h _ (Or.inl (Or.inr ⟨p, hp, Or.inr rfl⟩))⟩,
      fun b hb => ⟨h _ (Or.inr ⟨b, hb, Or.inl rfl⟩), fun kv hkv => h _ (Or.inr ⟨b, hb, Or.inr ⟨kv, hkv, rfl⟩⟩)⟩⟩
  · rintro ⟨h1, h2, h3⟩ t ((⟨p, hp, hc⟩ | ⟨p, hp, rfl | rfl⟩) | ⟨b, hb, rfl | ⟨kv, hkv, rfl⟩⟩)
    · exact h1 p hp t hc
    · exact (h2 p hp).1
    · exact (h2 p hp).2
    · exact (h3 b hb).1
    · exact (h3 b hb).2 kv hkv

theorem sentence_numerals {s : Str} {ts : List Tok} {ast : Ast} (hl : lex s = some ts) (h : Sentence ts ast) :
    ∀ t ∈ ast.literals, 1 ≤ litVal t ∧ t = natRepr (litVal t) := by
  obtain ⟨hf, ht, ha⟩ := sentence_ok hl h
  have : ∀ t ∈ ast.literals, Lit t := (forall_literals_iff Lit ast).2
    ⟨fun p hp => (hf p hp).2, ht, fun b hb => ⟨(ha b hb).1, fun kv hkv => ((ha b hb).2.2 kv hkv).2⟩⟩
  exact fun t ht => (this t ht).numeral

theorem state_length (ast : Ast) : ast.state.atoms.length = ast.atomCount := by
  simp [Ast.state, List.length_flatMap, expand, Ast.atomCount, itemCount]

theorem listenAttrs_eq {ast : Ast} (ha : AttrsOk ast.attrs) :
    listenAttrs ast.attrs =
      if (∀ b ∈ ast.attrs, blockShort b) ∧ ast.settings.Nodup then .ok ast.state.nodeAttrs
      else .error .tucanParser := by
  have key := (attrFold_eq (flatSettings ast.attrs) Inv.nil (flat_lit ha)).1
  simp only [List.nil_append, flat_short_iff ha, ← valuedSettings_eq, ← settings_eq_map, ← listenAttrs_flat] at key
  exact key

theorem state_inv {ast : Ast} (ha : AttrsOk ast.attrs) (hnd : ast.settings.Nodup) :
    Inv ast.state.nodeAttrs ast.valuedSettings := by
  have key := (attrFold_eq (flatSettings ast.attrs) Inv.nil (flat_lit ha)).2
  rw [List.nil_append, ← valuedSettings_eq, ← settings_eq_map] at key
  exact key hnd

theorem fieldOf_extraOf {ast : Ast} (ha : AttrsOk ast.attrs) (hnd : ast.settings.Nodup) (i : Nat) {k : Str}
    (hk : KeyText k) (v : Int) :
    fieldOf k (extraOf ast.state i) = some v ↔ ∃ w : Nat, (w : Int) = v ∧ (i + 1, k, w) ∈ ast.valuedSettings := by
  -- atom `i` of the graph is index `i + 1` of the string
  have := (state_inv ha hnd).val (i + 1) k hk v
  rwa [recOf, Int.natCast_succ, Int.add_sub_cancel] at this

theorem mem_state_bonds (ast : Ast) (i j : Nat) :
    ((i : Int), (j : Int)) ∈ ast.state.bonds ↔ ∃ p ∈ ast.tuples, litVal p.1 = i + 1 ∧ litVal p.2 = j + 1 := by
  have key : ∀ i a : Nat, (i : Int) = (a : Int) - 1 ↔ a = i + 1 := fun i a => by
    rw [eq_comm, Int.sub_eq_iff_eq_add, ← Int.natCast_add_one, Int.natCast_inj]
  simp only [Ast.state, mem_flatMap_tupleBond, Prod.mk.injEq, key]

theorem state_recs {ast : Ast} (ha : AttrsOk ast.attrs) (hnd : ast.settings.Nodup) {e : Int × Atom}
    (he : e ∈ ast.state.nodeAttrs) : OnlyMassRad e.2 ∧ ∃ b ∈ ast.attrs, e.1 = (litVal b.1 : Int) - 1 ∧ 1 ≤ litVal b.1 := by
  obtain ⟨o, s, hs, h⟩ := (state_inv ha hnd).recs e he
  obtain ⟨b, hb, hs⟩ := List.mem_flatMap.1 hs
  obtain ⟨kv, _, rfl⟩ := List.mem_map.1 hs
  exact ⟨o, b, hb, h, (ha b hb).1.numeral.1⟩

theorem listeners_of_valid {ast : Ast} (ok : TreeOk ast) (hv : ast.Valid) :
    listenFormula ast.formula = .ok ast.state.atoms ∧ listenTuples ast.tuples = .ok ast.state.bonds ∧
      listenAttrs ast.attrs = .ok ast.state.nodeAttrs := by
  obtain ⟨l1, l2, l3⟩ := (forall_literals_iff _ ast).1 hv.lits
  exact ⟨(listenFormula_eq ok.formula).trans (if_pos l1),
    (listenTuples_eq ok.tuples).trans (if_pos fun p hp => ⟨(l2 p hp).1, (l2 p hp).2, (hv.tuples p hp).2.2⟩),
    (listenAttrs_eq ok.attrs).trans (if_pos ⟨l3, hv.once⟩)⟩

theorem good_of_valid {ast : Ast} (ok : TreeOk ast) (hv : ast.Valid) : GoodState ast.state := by
  refine ⟨?_, ?_, ?_, (state_inv ok.attrs hv.once).nodup⟩
  · intro a ha
    obtain ⟨p, hp, rfl⟩ := mem_flatMap_expand ha
    simpa [formulaAtom] using (ok.formula p hp).1
  · intro b hb
    obtain ⟨p, hp, rfl⟩ := mem_flatMap_tupleBond.1 hb
    have := hv.tuples p hp
    have p1 := (ok.tuples p hp).1.numeral.1
    have p2 := (ok.tuples p hp).2.numeral.1
    rw [state_length]
    dsimp only
    omega
  · intro e he
    obtain ⟨o, b, hb, h, p1⟩ := state_recs ok.attrs hv.once he
    have := hv.attrIdx b hb
    rw [state_length]
    exact ⟨by omega, by omega, o⟩

theorem valid_of_bounds {ast : Ast} (ok : TreeOk ast) (c1 : ∀ p ∈ ast.formula, itemShort p)
    (c2 : ∀ p ∈ ast.tuples, tupleOk p) (c3 : (∀ b ∈ ast.attrs, blockShort b) ∧ ast.settings.Nodup)
    (hb : ∀ b ∈ ast.state.bonds, b.1 < ast.state.atoms.length ∧ b.2 < ast.state.atoms.length)
    (he : ∀ e ∈ ast.state.nodeAttrs, e.1 < ast.state.atoms.length) : ast.Valid := by
  have inv := state_inv ok.attrs c3.2
  rw [state_length] at hb he
  refine ⟨(forall_literals_iff _ ast).2 ⟨c1, fun p hp => ⟨(c2 p hp).1, (c2 p hp).2.1⟩, c3.1⟩, ?_, ?_, c3.2⟩
  · intro p hp
    have hlt := hb _ (mem_flatMap_tupleBond.2 ⟨p, hp, rfl⟩)
    have hne := (c2 p hp).2.2
    dsimp only at hlt
    omega
  · -- the first setting of the block is stored under the block's index
    intro b hb'
    obtain ⟨_, hne, hprops⟩ := ok.attrs b hb'
    obtain ⟨kv, hkv⟩ := List.exists_mem_of_ne_nil _ hne
    have hmem : (litVal b.1, kv.1, litVal kv.2) ∈ ast.valuedSettings :=
      List.mem_flatMap.2 ⟨b, hb', List.mem_map.2 ⟨kv, hkv, rfl⟩⟩
    have hsome := (inv.isSome _ (hprops kv hkv).1).2 (List.mem_map.2 ⟨_, hmem, rfl⟩)
    unfold recOf at hsome
    cases hl : alookup ((litVal b.1 : Int) - 1) ast.state.nodeAttrs with
    | none =>
      rw [hl, Option.getD_none, fieldOf_empty] at hsome
      cases hsome
    | some a =>
      have := he _ (mem_of_alookup hl)
      dsimp only at this
      omega

end Tucan.Acc

namespace Tucan
open Tucan.Acc

theorem sentence_or_rejected (s : Str) :
    (∃ toks ast, lex s = some toks ∧ Sentence toks ast) ∨ graphFromTucan s = .error .tucanParser := by
  cases hl : lex s with
  | none => exact .inr (by unfold graphFromTucan; rw [hl]; rfl)
  | some toks =>
    cases hp : parseTucan toks with
    | none => exact .inr (by unfold graphFromTucan; simp only [hl, hp, PyM.pure_eq_ok, PyM.ok_bind]; rfl)
    | some ast => exact .inl ⟨toks, ast, rfl, (parseTucan_iff toks ast).1 hp⟩

theorem graphFromTucan_of_sentence {s : Str} {toks : List Tok} {ast : Ast} (hl : lex s = some toks)
    (hsen : Sentence toks ast) :
    graphFromTucan s = if ast.Valid then toGraph ast.state else .error .tucanParser := by
  have ok := sentence_ok hl hsen
  unfold graphFromTucan
  simp only [hl, (parseTucan_iff toks ast).2 hsen, PyM.pure_eq_ok, PyM.ok_bind]
  by_cases hv : ast.Valid
  · obtain ⟨h1, h2, h3⟩ := listeners_of_valid ok hv
    rw [if_pos hv, h1, h2, h3]
    rfl
  · -- each listener returns or raises the parser's exception; so does `to_graph`, whose bound checks fail
    simp only [if_neg hv, listenFormula_eq ok.formula, listenTuples_eq ok.tuples, listenAttrs_eq ok.attrs,
      PyM.ite_bind, PyM.ok_bind, PyM.error_bind, ← ite_and]
    split
    · next c =>
      exact (toGraph_eq ast.state fun e he => by
        obtain ⟨_, b, _, h, p1⟩ := state_recs ok.attrs c.2.2.2 he
        omega).trans (if_neg fun hb => hv (valid_of_bounds ok c.1 c.2.1 c.2.2 hb.1 hb.2))
    · rfl

theorem valid_of_accepted {s : Str} {toks : List Tok} {ast : Ast} {g : Graph} (hl : lex s = some toks)
    (hsen : Sentence toks ast) (h : graphFromTucan s = .ok g) : ast.Valid ∧ toGraph ast.state = .ok g := by
  rw [graphFromTucan_of_sentence hl hsen] at h
  split at h
  · exact ⟨‹_›, h⟩
  · cases h

/-- **Acceptance, exactly.** -/
theorem graphFromTucan_accepts_iff (s : Str) :
    (∃ g, graphFromTucan s = .ok g) ↔
      ∃ toks ast, lex s = some toks ∧ Sentence toks ast ∧ ast.Valid := by
  constructor
  · rintro ⟨g, hg⟩
    rcases sentence_or_rejected s with ⟨toks, ast, hl, hsen⟩ | he
    · exact ⟨toks, ast, hl, hsen, (valid_of_accepted hl hsen hg).1⟩
    · rw [he] at hg
      cases hg
  · rintro ⟨toks, ast, hl, hs, hv⟩
    obtain ⟨g, hg, _⟩ := toGraph_spec (good_of_valid (sentence_ok hl hs) hv)
    exact ⟨g, by rw [graphFromTucan_of_sentence hl hs, if_pos hv, hg]⟩

end Tucan
