import TucanProofs.Lemmas.GraphBasics
/-!
# The contract of igraph/bliss

`igraph.Graph.canonical_permutation(color=partition)` followed by `permute_vertices` is C code the
library does not implement.  It enters the model as a *parameter* constrained by this contract; every
theorem that uses it is proved for every oracle meeting the contract.  The harness checks `perm` on
every real answer and `canonical` on every pair of colour-isomorphic inputs it generates.
-/
namespace Tucan

/-- equal partition class (the vertex colour handed to bliss) -/
def SamePart (x y : Atom) : Prop := x.part = y.part

structure CanonOracle where
  /-- the old label sitting at each position of the canonical form -/
  order : Graph → List Nat
  /-- the answer is a permutation of the vertices -/
  perm : ∀ r : Graph, r.WF → (order r).Perm r.labels
  /-- colour-isomorphic graphs have identical canonical forms: position by position the same colour, and
  the same adjacency between positions -/
  canonical : ∀ (f : Nat → Nat) (r r' : Graph), r.WF → r'.WF → Iso SamePart f r r' →
    ∀ (i j a b a' b' : Nat), (order r)[i]? = some a → (order r)[j]? = some b →
      (order r')[i]? = some a' → (order r')[j]? = some b' →
      partOf? r a = partOf? r' a' ∧ (r.Adj a b ↔ r'.Adj a' b')

end Tucan
