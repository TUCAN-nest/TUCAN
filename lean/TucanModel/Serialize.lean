import TucanModel.GraphUtils
/-!
# `tucan/serialization.py`
-/
namespace Tucan

/-- What `_assign_final_labels` reads from the graph: the node list, the partition of a node and the
neighbour list of a node. -/
structure View where
  nodes : List Nat
  part  : Nat → Int
  nbrs  : Nat → List Nat

/-- `_labels_by_partition(m)`: per partition the labels in *descending* order (so that `.pop()`
yields the smallest); listed here by ascending partition, the dictionary order being irrelevant
because it is only ever indexed. -/
def availInit (v : View) : List (Int × List Nat) :=
  (dedupAdj ((v.nodes.map v.part).mergeSort leI)).map fun p =>
    (p, sortN (v.nodes.filter (v.part · == p)))

/-- `labels_by_partition[p].pop()`: smallest available label of partition `p`.
(`avail` keeps each list ascending and pops the head; Python keeps it descending and pops the tail.) -/
def popAvail (p : Int) : List (Int × List Nat) → Option (Nat × List (Int × List Nat))
  | [] => none
  | (q, ls) :: rest =>
    if q == p then
      match ls with
      | [] => none
      | l :: ls' => some (l, (q, ls') :: rest)
    else (popAvail p rest).map fun (l, rest') => (l, (q, ls) :: rest')

structure BfsState where
  explored : List Nat
  final    : List (Nat × Nat)        -- `final_labels` in insertion order
  avail    : List (Int × List Nat)
  queue    : List Nat                -- the deque, left end first

/-- the order in which the neighbours of `a` are pushed with `extendleft`:
for `priority in reversed((lt, gt, eq))`: `eq`, then `gt`, then `lt`, each sorted ascending -/
def travOrder (v : View) (a : Nat) : List Nat :=
  let ns := v.nbrs a
  let pa := v.part a
  sortN (ns.filter fun n => pa == v.part n) ++
  sortN (ns.filter fun n => decide (pa > v.part n)) ++
  sortN (ns.filter fun n => decide (pa < v.part n))

def unexplored (v : View) (ex : List Nat) : List Nat := v.nodes.filter fun k => !ex.contains k

theorem unexplored_cons_lt (v : View) (ex : List Nat) (a : Nat) (ha : a ∈ v.nodes)
    (hx : ex.contains a = false) :
    (unexplored v (a :: ex)).length < (unexplored v ex).length := by
  have h : unexplored v (a :: ex) = (unexplored v ex).filter (· != a) := by
    simp only [unexplored, List.filter_filter, List.contains_cons, Bool.not_or, bne]
  rw [h]
  exact List.length_filter_lt_length_iff_exists.mpr
    ⟨a, List.mem_filter.mpr ⟨ha, by rw [hx]; rfl⟩, by simp⟩

/-- explore atom `a`: take the smallest label of its partition, push its neighbours -/
def explore (v : View) (s : BfsState) (a : Nat) (q : List Nat) : PyM BfsState :=
  match popAvail (v.part a) s.avail with
  | none => .error .indexError
  | some (l, avail') =>
    .ok { explored := a :: s.explored, final := s.final ++ [(a, l)], avail := avail',
          queue := (travOrder v a).reverse ++ q }

/-- The two nested `while` loops of `_assign_final_labels`.  Well-founded on
(number of unexplored nodes, queue length); seeding the queue with the smallest unexplored atom is
fused with exploring it (the first inner iteration always does exactly that). -/
def bfsRun (v : View) (s : BfsState) : PyM BfsState :=
  match hq : s.queue.getLast? with
  | none =>
    match hu : sortN (unexplored v s.explored) with
    | [] => .ok s
    | u :: _ =>
      have hmem : u ∈ unexplored v s.explored := by
        have : u ∈ sortN (unexplored v s.explored) := by rw [hu]; simp
        simpa [sortN] using this
      match he : explore v s u [] with
      | .error e => .error e
      | .ok s' => bfsRun v s'
  | some a =>
    let q := s.queue.dropLast
    if hn : a ∈ v.nodes then
      if hx : s.explored.contains a then bfsRun v { s with queue := q }
      else
        match he : explore v s a q with
        | .error e => .error e
        | .ok s' => bfsRun v s'
    else .error .keyError
termination_by ((unexplored v s.explored).length, s.queue.length)
decreasing_by
  · have hu' : u ∈ v.nodes ∧ s.explored.contains u = false := by
      simpa [unexplored] using hmem
    have : s'.explored = u :: s.explored := by
      unfold explore at he; split at he <;> simp_all
      cases he; rfl
    rw [this]
    exact Prod.Lex.left _ _ (unexplored_cons_lt v s.explored u hu'.1 hu'.2)
  · apply Prod.Lex.right
    have : s.queue ≠ [] := by intro h; simp [h] at hq
    have := List.length_pos_iff.mpr this
    simp [List.length_dropLast]; omega
  · have : s'.explored = a :: s.explored := by
      unfold explore at he; split at he <;> simp_all
      cases he; rfl
    rw [this]
    exact Prod.Lex.left _ _ (unexplored_cons_lt v s.explored a hn (by simpa using hx))

/-- the dictionary `final_labels` of `_assign_final_labels`, in insertion order -/
def finalLabels (v : View) : PyM (List (Nat × Nat)) := do
  let s ← bfsRun v ⟨[], [], availInit v, []⟩
  if s.final.length == v.nodes.length then .ok s.final else .error .assertion

/-- the view of a graph all of whose nodes carry a partition -/
def Graph.view (g : Graph) : View :=
  { nodes := g.labels
    part := fun a => ((g.find? a).bind (·.attrs.part)).getD 0
    nbrs := g.nbrs }

/-- `nx.set_node_attributes(m, False, EXPLORED)` -/
def Graph.resetExplored (g : Graph) : Graph := g.mapAttrs fun _ a => { a with explored := some false }

/-- `_assign_final_labels(m)`: the relabelled copy and the post-state of the argument -/
def assignFinalLabels (g : Graph) : PyM (Graph × Graph × List (Nat × Nat)) := do
  -- `_labels_by_partition` reads `m.nodes[a][PARTITION]` for every node
  if g.nodes.any (·.attrs.part.isNone) then .error .keyError
  else
    let g' := g.resetExplored
    let fl ← finalLabels g'.view
    pure (g'.relabelCopy fl, g', fl)

/-! ## Writers -/

def countOcc (s : Str) (l : List Str) : Nat := (l.filter (· == s)).length

/-- `f"{k}{v}" if v > 1 else k` -/
def symCount (k : Str) (v : Nat) : Str := if v > 1 then k ++ natRepr v else k

/-- `_write_sum_formula(m)` -/
def writeSumFormula (g : Graph) : Str :=
  let syms := g.nodes.filterMap (·.attrs.sym)
  let c := countOcc ['C'] syms
  let h := countOcc ['H'] syms
  let withC := c > 0
  let head := if withC then symCount ['C'] c ++ (if h > 0 then symCount ['H'] h else []) else []
  let rest0 := syms.filter fun s => s != ['C'] && !(withC && s == ['H'])
  let keys := dedupAdj (rest0.mergeSort leStr)
  head ++ (keys.map fun k => symCount k (countOcc k syms)).flatten

/-- `_write_edge_list(m)` -/
def sortedEdges (g : Graph) : List (Nat × Nat) :=
  (g.edges.map fun (u, v, _) => if u ≤ v then (u, v) else (v, u)).mergeSort leNN

def writeEdgeList (g : Graph) : Str :=
  ((sortedEdges g).map fun (a, b) =>
    '(' :: natRepr (a + 1) ++ '-' :: natRepr (b + 1) ++ [')']).flatten

/-- `_write_node_attributes(m)` -/
def writeNodeAttributes (g : Graph) : Str :=
  let ns := g.nodes.mergeSort fun a b => decide (a.id ≤ b.id)
  (ns.map fun n =>
    let av := (match n.attrs.mass with | some m => ["mass=".toList ++ intRepr m] | none => []) ++
              (match n.attrs.rad with | some r => ["rad=".toList ++ intRepr r] | none => [])
    if av.isEmpty then [] else
      '(' :: natRepr (n.id + 1) ++ ':' :: joinWith [','] av ++ [')']).flatten

/-- `serialize_molecule(m)`: the string and the post-state of the argument -/
def serializeMolecule (g : Graph) : PyM (Str × Graph) := do
  let (fl, g', _) ← assignFinalLabels g
  let m ← sortMoleculeByAttribute fl .atomicNumber
  let na := writeNodeAttributes m
  pure (writeSumFormula m ++ '/' :: writeEdgeList m ++ (if na.isEmpty then [] else '/' :: na), g')

end Tucan
