import TucanModel.Py
/-! `str.splitlines()`: the one analysis of `splitLinesGo`.  `go_step` reads a line `l` (no break character) and its
terminator `eol` (`\n`, `\r\n` or `\r`) from ANY state `b` of the `skipLF` flag and says in which state the rest is
read, with no condition on the rest of the text.  The only condition is on the line itself: after a `\r` (`b = true`)
it must not be an empty line whose terminator starts with `\n`, which would spell `\r\n`.  Iterated: the same
terminator after every line (`fileText`; none after the last, `fileTextNoTrail`) or a terminator of its own for each
line (`fileTextMixed`) give back the lines.  There the one interaction between terminators shows: a line ended by `\r`
followed by an *empty* line ended by `\n` would spell `\r\n`, one terminator; such a pair is excluded (`NoCrLfMerge`). -/
namespace Tucan

namespace WR

/-- no character of the text ends a line (`WR`: the writer's lines have to meet it too, `WriteRead.lean`) -/
def NoBreak (l : Str) : Prop := ∀ c ∈ l, isLineBreak c = false

end WR

/-- the three line-ending styles in use -/
def IsEol (eol : Str) : Prop := eol = ['\n'] ∨ eol = ['\r', '\n'] ∨ eol = ['\r']

/-- the text of a file whose every line is followed by the terminator `eol` -/
def fileText (eol : Str) (lines : List Str) : Str := (lines.map (· ++ eol)).flatten

/-- the same without a terminator after the last line -/
def fileTextNoTrail (eol : Str) (lines : List Str) : Str := joinWith eol lines

/-- each line with its own terminator -/
def fileTextMixed (ls : List (Str × Str)) : Str := (ls.map fun p => p.1 ++ p.2).flatten

/-- no `\r` terminator is directly followed by a `\n` that belongs to the next (empty) line -/
def NoCrLfMerge : List (Str × Str) → Prop
  | [] => True
  | [_] => True
  | p :: q :: r => (p.2 = ['\r'] → ¬ (q.1 = [] ∧ q.2.head? = some '\n')) ∧ NoCrLfMerge (q :: r)

/-- every line but the last ends in one of the three terminators; the last may end in none, if it is not empty -/
def MixedOk : List (Str × Str) → Prop
  | [] => True
  | [p] => IsEol p.2 ∨ (p.2 = [] ∧ p.1 ≠ [])
  | p :: q :: r => IsEol p.2 ∧ MixedOk (q :: r)

namespace SL
open WR

theorem go_flag (cur : Str) (acc : List Str) (b : Bool) {s : Str} (h : b = true → ∀ r, s ≠ '\n' :: r) :
    splitLinesGo cur acc b s = splitLinesGo cur acc false s := by
  cases b with
  | false => rfl
  | true =>
    cases s with
    | nil => rfl
    | cons c r =>
      have hc : (c == '\n') = false := beq_false_of_ne fun e => h rfl r (e ▸ rfl)
      simp only [splitLinesGo, hc, Bool.and_false]

theorem go_line (l : Str) (h : NoBreak l) (cur : Str) (acc : List Str) (rest : Str) :
    splitLinesGo cur acc false (l ++ rest) = splitLinesGo (l.reverse ++ cur) acc false rest := by
  induction l generalizing cur with
  | nil => rfl
  | cons c r ih =>
    have hc : isLineBreak c = false := h c List.mem_cons_self
    have hr : (c == '\r') = false := beq_false_of_ne fun e => by rw [e] at hc; cases hc
    simp only [List.cons_append, splitLinesGo, Bool.false_and, Bool.false_eq_true, if_false, hr, hc,
      ih fun x hx => h x (List.mem_cons_of_mem _ hx), List.reverse_cons, List.append_assoc, List.nil_append]

theorem head_ne {l : Str} (hl : NoBreak l) {s : Str} (hs : l = [] → ∀ r, s ≠ '\n' :: r) :
    ∀ r, l ++ s ≠ '\n' :: r := by
  cases l with
  | nil => exact hs rfl
  | cons c t =>
    intro r e
    have hc : isLineBreak c = false := hl c List.mem_cons_self
    rw [(List.cons.inj e).1] at hc
    cases hc

theorem go_step {l eol : Str} (hl : NoBreak l) (he : IsEol eol) (b : Bool)
    (hb : b = true → ¬ (l = [] ∧ eol.head? = some '\n')) (acc : List Str) (rest : Str) :
    splitLinesGo [] acc b (l ++ eol ++ rest) = splitLinesGo [] (l :: acc) (eol == ['\r']) rest := by
  have hn : b = true → ∀ r, l ++ (eol ++ rest) ≠ '\n' :: r := fun hb' =>
    head_ne hl fun h1 r h2 => hb hb' ⟨h1, by rcases he with rfl | rfl | rfl <;> first | rfl | cases h2⟩
  rw [List.append_assoc, go_flag _ _ b hn, go_line l hl, List.append_nil]
  -- a terminator hands the collected `cur` over as `cur.reverse`, and `cur` is `l.reverse`: spell the `l` on the right so
  rw [← List.reverse_reverse l, List.reverse_reverse l.reverse]
  rcases he with rfl | rfl | rfl <;> rfl

theorem go_last {l : Str} (hl : NoBreak l) (hne : l ≠ []) (acc : List Str) (b : Bool) :
    splitLinesGo [] acc b l = (l :: acc).reverse := by
  rw [← List.append_nil l, go_flag [] acc b fun _ => head_ne hl fun h => absurd h hne, go_line l hl]
  simp [splitLinesGo, hne]

/-- with one terminator throughout, `go_step`'s condition on the flag holds again after every line: the flag is set only
after `\r`, and `\r` does not begin with `\n` -/
theorem flag_head {eol : Str} (h : (eol == ['\r']) = true) : eol.head? ≠ some '\n' := by
  rw [eq_of_beq h]; decide

theorem go_lines (eol : Str) (he : IsEol eol) (lines : List Str)
    (hnb : ∀ l ∈ lines, NoBreak l) (acc : List Str) (b : Bool)
    (hb : b = true → eol.head? ≠ some '\n') :
    splitLinesGo [] acc b (lines.map (· ++ eol)).flatten = acc.reverse ++ lines := by
  induction lines generalizing acc b with
  | nil => rw [List.append_nil]; rfl
  | cons a r ih =>
    rw [show ((a :: r).map (· ++ eol)).flatten = a ++ eol ++ (r.map (· ++ eol)).flatten from rfl,
      go_step (hnb a List.mem_cons_self) he b (fun h1 h2 => hb h1 h2.2),
      ih (fun l hl => hnb l (List.mem_cons_of_mem _ hl)) _ _ flag_head, List.reverse_cons, List.append_assoc]
    rfl

theorem go_joinWith (eol : Str) (he : IsEol eol) (lines : List Str)
    (hnb : ∀ l ∈ lines, NoBreak l) (hlast : ∀ l, lines.getLast? = some l → l ≠ [])
    (acc : List Str) (b : Bool) (hb : b = true → eol.head? ≠ some '\n') :
    splitLinesGo [] acc b (joinWith eol lines) = acc.reverse ++ lines := by
  induction lines generalizing acc b with
  | nil => rw [List.append_nil]; rfl
  | cons a r ih =>
    cases r with
    | nil =>
      rw [show joinWith eol [a] = a from rfl, go_last (hnb a List.mem_cons_self) (hlast a rfl), List.reverse_cons]
    | cons a' r =>
      rw [show joinWith eol (a :: a' :: r) = a ++ eol ++ joinWith eol (a' :: r) from rfl,
        go_step (hnb a List.mem_cons_self) he b (fun h1 h2 => hb h1 h2.2),
        ih (fun l hl => hnb l (List.mem_cons_of_mem _ hl)) (fun l hl => hlast l hl) _ _ flag_head,
        List.reverse_cons, List.append_assoc]
      rfl

theorem go_fileTextMixed (ls : List (Str × Str)) (hnb : ∀ p ∈ ls, NoBreak p.1)
    (hok : MixedOk ls) (hm : NoCrLfMerge ls) (acc : List Str) (b : Bool)
    (hb : b = true → ∀ q, ls.head? = some q → ¬ (q.1 = [] ∧ q.2.head? = some '\n')) :
    splitLinesGo [] acc b (fileTextMixed ls) = acc.reverse ++ ls.map (·.1) := by
  induction ls generalizing acc b with
  | nil => rw [List.map_nil, List.append_nil]; rfl
  | cons p r ih =>
    cases r with
    | nil =>
      rw [show fileTextMixed [p] = p.1 ++ p.2 ++ [] from rfl]
      rcases hok with he | ⟨h2, h1⟩
      · rw [go_step (hnb p List.mem_cons_self) he b (fun h => hb h p rfl)]
        exact List.reverse_cons
      · rw [h2, List.append_nil, List.append_nil, go_last (hnb p List.mem_cons_self) h1]
        exact List.reverse_cons
    | cons q r =>
      rw [show fileTextMixed (p :: q :: r) = p.1 ++ p.2 ++ fileTextMixed (q :: r) from rfl,
        go_step (hnb p List.mem_cons_self) hok.1 b (fun h => hb h p rfl),
        ih (fun x hx => hnb x (List.mem_cons_of_mem _ hx)) hok.2 hm.2 _ _
          (fun h x hx => by cases hx; exact hm.1 (eq_of_beq h)),
        List.reverse_cons, List.append_assoc]
      rfl

end SL
open WR

theorem splitLines_fileText (eol : Str) (he : IsEol eol) (lines : List Str) (hnb : ∀ l ∈ lines, NoBreak l) :
    splitLines (fileText eol lines) = lines :=
  SL.go_lines eol he lines hnb [] false nofun

theorem splitLines_fileTextNoTrail (eol : Str) (he : IsEol eol) (lines : List Str) (hnb : ∀ l ∈ lines, NoBreak l)
    (hlast : ∀ l, lines.getLast? = some l → l ≠ []) :
    splitLines (fileTextNoTrail eol lines) = lines :=
  SL.go_joinWith eol he lines hnb hlast [] false nofun

/-- the text is the lines, each followed by the same terminator (`\n`, `\r\n` or `\r`), the last one
possibly without -/
def IsTextOf (text : Str) (lines : List Str) : Prop :=
  (∀ l ∈ lines, WR.NoBreak l) ∧ ∃ eol, IsEol eol ∧
    (text = fileText eol lines ∨ (text = fileTextNoTrail eol lines ∧ ∀ l, lines.getLast? = some l → l ≠ []))

theorem IsTextOf.splitLines {text : Str} {lines : List Str} (ht : IsTextOf text lines) : splitLines text = lines := by
  obtain ⟨hnb, eol, he, rfl | ⟨rfl, hlast⟩⟩ := ht
  · exact splitLines_fileText eol he lines hnb
  · exact splitLines_fileTextNoTrail eol he lines hnb hlast

theorem splitLines_fileTextMixed (ls : List (Str × Str)) (hnb : ∀ p ∈ ls, NoBreak p.1)
    (hok : MixedOk ls) (hm : NoCrLfMerge ls) :
    splitLines (fileTextMixed ls) = ls.map (·.1) :=
  SL.go_fileTextMixed ls hnb hok hm [] false nofun

/-- non-vacuity: `a\r\nb\rc\n\nd` — four terminators of three kinds, an empty line, no terminator at the end -/
theorem mixed_example :
    MixedOk [(['a'], ['\r', '\n']), (['b'], ['\r']), (['c'], ['\n']), ([], ['\n']), (['d'], [])] ∧
    NoCrLfMerge [(['a'], ['\r', '\n']), (['b'], ['\r']), (['c'], ['\n']), ([], ['\n']), (['d'], [])] ∧
    splitLines (fileTextMixed [(['a'], ['\r', '\n']), (['b'], ['\r']), (['c'], ['\n']), ([], ['\n']), (['d'], [])])
      = [['a'], ['b'], ['c'], [], ['d']] :=
  ⟨by simp [MixedOk, IsEol], by simp [NoCrLfMerge], by decide +kernel⟩

end Tucan
