import TucanProofs.Lemmas.RoundTrip
import TucanProofs.Lemmas.AcceptIff
/-!
# The canonical layout, stated about the emitted string

`C05_tuples_layout`, `C05_attribute_blocks_ascending`, `C05_formula_equals_element_counts` are statements about
the lists the writer builds.  Here the same facts are stated about the *string* the pipeline returns: it lexes,
it is a sentence of the grammar, and the syntax tree of that sentence, which the grammar determines (`Sentence.unique`),
has the canonical layout.
-/
namespace Tucan

structure Ast.Canonical (ast : Ast) : Prop where
  /-- element symbols in Hill order, each once -/
  hill : IsHillOrder (ast.formula.map (·.1))
  /-- every literal is the decimal numeral of a positive number without leading zeros -/
  numerals : ∀ t ∈ ast.literals, 1 ≤ litVal t ∧ t = natRepr (litVal t)
  /-- a count of 1 is not written -/
  noCountOne : ∀ p ∈ ast.formula, ∀ c, p.2 = some c → 2 ≤ litVal c
  tupleOrient : ∀ p ∈ ast.tuples, litVal p.1 < litVal p.2
  /-- tuples strictly ascending (so no bond twice) -/
  tuplesAscending :
    (ast.tuples.map fun p => (litVal p.1, litVal p.2)).Pairwise (fun x y => x.1 < y.1 ∨ (x.1 = y.1 ∧ x.2 < y.2))
  /-- attribute blocks strictly ascending by atom index (so one block per atom) -/
  blocksAscending : (ast.attrs.map fun b => litVal b.1).Pairwise (· < ·)
  /-- inside a block: `mass` before `rad`, each at most once, never empty -/
  blockKeys : ∀ b ∈ ast.attrs,
    b.2.map (·.1) = ["mass".toList] ∨ b.2.map (·.1) = ["rad".toList] ∨ b.2.map (·.1) = ["mass".toList, "rad".toList]

namespace Layout

theorem formula_fst (m : Graph) :
    (astOf m).formula.map (·.1) = hillSyms (m.nodes.filterMap (·.attrs.sym)) := by
  rw [← hillItems_fst]
  simp [astOf, List.map_map, Function.comp_def]

theorem astOf_canonical {m : Graph} {n : Nat} (S : RoundTrip.SortedMol m n) : (astOf m).Canonical := by
  refine ⟨?_, ?_, ?_, ?_, ?_, blocks_ascending S.wf, ?_⟩
  · rw [formula_fst]; exact hillSyms_hillOrder _
  · obtain ⟨toks, hlex, hsent⟩ := S.parses
    exact Acc.sentence_numerals hlex hsent
  · intro p hp c hc
    obtain ⟨i, _, hpi⟩ := List.mem_map.mp hp
    rw [← hpi] at hc
    obtain ⟨h2, hc⟩ := countText_some hc
    rw [hc, litVal_natRepr]
    exact h2
  · intro p hp
    obtain ⟨a, b, hab, _, rfl⟩ := S.mem_tuples.1 hp
    simp only [litVal_natRepr]
    omega
  · refine List.pairwise_map.2 (List.pairwise_map.2 ((sortedEdges_strict m S.wf).imp fun {a b} hab => ?_))
    simp only [litVal_natRepr, Nat.add_lt_add_iff_right, Nat.add_right_cancel_iff]
    exact hab
  · intro b hb
    obtain ⟨i, _, hne, rfl⟩ := S.mem_attrs.1 hb
    exact attrPairs_keys _ hne

theorem attrs_length (m : Graph) :
    (attrsAstOf m).length = m.nodes.countP fun n => n.attrs.mass.isSome || n.attrs.rad.isSome := by
  unfold attrsAstOf
  rw [List.length_filterMap_eq_countP, (List.mergeSort_perm _ _).countP_eq]
  refine List.countP_congr fun n _ => ?_
  unfold attrPairs
  cases n.attrs.mass <;> cases n.attrs.rad <;> simp

theorem astOf_counts {m g : Graph} {τ : Nat → Nat} (S : RoundTrip.SortedMol m g.numberOfNodes) (hw : g.WF)
    (hs : g.Simple) (iso : Iso SameIdent τ g m) :
    (∀ p ∈ (astOf m).formula, Acc.itemCount p = countOcc p.1 (g.nodes.filterMap (·.attrs.sym))) ∧
    (∀ sym ∈ g.nodes.filterMap (·.attrs.sym), sym ∈ (astOf m).formula.map (·.1)) ∧
    (astOf m).atomCount = g.numberOfNodes ∧
    (astOf m).tuples.length = g.numberOfEdges ∧
    (astOf m).attrs.length = (g.nodes.filter fun n => n.attrs.mass.isSome || n.attrs.rad.isSome).length := by
  have hsym : (m.nodes.filterMap (·.attrs.sym)).Perm (g.nodes.filterMap (·.attrs.sym)) :=
    iso.nodes_filterMap_perm hw S.wf fun x y hxy => hxy.sym
  refine ⟨?_, ?_, RoundTrip.atomCount_astOf S, ?_, ?_⟩
  · intro p hp
    obtain ⟨i, hi, rfl⟩ := List.mem_map.mp hp
    rw [itemCount_countText i.1 (hillItems_count hi).1, (hillItems_count hi).2]
    exact countOcc_perm _ hsym
  · intro sym hsy
    rw [formula_fst, mem_hillSyms]
    exact hsym.mem_iff.mpr hsy
  · show ((sortedEdges m).map _).length = _
    rw [List.length_map, sortedEdges_length]
    exact iso.numberOfEdges hw hs S.wf S.simple
  · show (attrsAstOf m).length = _
    rw [attrs_length, ← List.countP_eq_length_filter]
    -- the renaming keeps, as a multiset over the atoms, whether an atom carries a mass or a radical: count the `true`s
    simpa [List.countP_map] using (iso.nodes_filterMap_perm hw S.wf
      (F := fun x => some (x.mass.isSome || x.rad.isSome)) fun x y hxy => by rw [hxy.mass, hxy.rad]).countP_eq id

end Layout

/-- **The emitted string has the canonical layout.** -/
theorem emitted_layout (order : Graph → List Nat) (hperm : ∀ r : Graph, r.WF → (order r).Perm r.labels)
    (g : Graph) (hw : g.WF) (hs : g.Simple) (hmol : g.MolAtoms)
    (s : Str) (h : tucanOf order g = .ok s) :
    ∃ toks ast, lex s = some toks ∧ Sentence toks ast ∧ ast.Canonical := by
  obtain ⟨m, τ, rfl, S, _⟩ := emitted_form hperm hw hs hmol h
  obtain ⟨toks, hlex, hsent⟩ := S.parses
  exact ⟨toks, astOf m, hlex, hsent, Layout.astOf_canonical S⟩

/-- **… and states the molecule's own counts**: as many atoms of each element as the molecule has, one tuple per
bond, one attribute block per atom that carries a mass or a radical. -/
theorem emitted_counts (order : Graph → List Nat) (hperm : ∀ r : Graph, r.WF → (order r).Perm r.labels)
    (g : Graph) (hw : g.WF) (hs : g.Simple) (hmol : g.MolAtoms)
    (s : Str) (h : tucanOf order g = .ok s) :
    ∃ toks ast, lex s = some toks ∧ Sentence toks ast ∧
      (∀ p ∈ ast.formula, Acc.itemCount p = countOcc p.1 (g.nodes.filterMap (·.attrs.sym))) ∧
      (∀ sym ∈ g.nodes.filterMap (·.attrs.sym), sym ∈ ast.formula.map (·.1)) ∧
      ast.atomCount = g.numberOfNodes ∧
      ast.tuples.length = g.numberOfEdges ∧
      ast.attrs.length = (g.nodes.filter fun n => n.attrs.mass.isSome || n.attrs.rad.isSome).length := by
  obtain ⟨m, τ, rfl, S, iso⟩ := emitted_form hperm hw hs hmol h
  obtain ⟨toks, hlex, hsent⟩ := S.parses
  exact ⟨toks, astOf m, hlex, hsent, Layout.astOf_counts S hw hs iso⟩

end Tucan
