import TucanProofs.Lemmas.AcceptIff
import TucanProofs.Lemmas.Sentence
import TucanProofs.Lemmas.ParserDenotation
import TucanProofs.Lemmas.AstDenotation
import TucanProofs.Lemmas.TablesPin
import TucanProofs.Lemmas.SerializeTokens
import TucanProofs.Lemmas.MoreExamples
/-!
# C10 — the parser accepts exactly the grammar; every rejection is the parser's own exception

The Lean reader (`lex`, `parseTucan`, listener, `toGraph`) is the "independent reference reader written
from the EBNF" the property names; its grammar tables are regenerated from the executing ANTLR artifact
on every run and the real parser is compared with it on generated sentences and their single-token edits
(accept/reject, exception type, graph).  The theorems here are about the reference reader itself.
-/
namespace Tucan

/-- **The recogniser accepts exactly the sentences of the published grammar**, transcribed rule by rule
as the inductive relation `Sentence`, and returns exactly their syntax tree. -/
theorem C10_recogniser_iff_grammar (ts : List Tok) (ast : Ast) : parseTucan ts = some ast ↔ Sentence ts ast :=
  parseTucan_iff ts ast

/-- an accepted string is a sentence of the grammar (lexically and syntactically) -/
theorem C10_accepted_is_sentence (s : Str) (g : Graph) (h : graphFromTucan s = .ok g) :
    ∃ toks ast, lex s = some toks ∧ Sentence toks ast := by
  obtain ⟨toks, ast, hl, hsen, -⟩ := (graphFromTucan_accepts_iff s).1 ⟨g, h⟩
  exact ⟨toks, ast, hl, hsen⟩

/-- **Acceptance, exactly.**  A string is accepted if and only if it is a sentence of the grammar whose bond
and attribute indices refer to existing atoms (an index is at most the number of atoms the formula states),
which has no bond from an atom to itself and sets no attribute key twice on one atom — within a block or across
blocks — and (the one line the interpreter draws, not the grammar) none of whose integer literals exceeds
CPython's conversion limit of 4300 digits. -/
theorem C10_accepts_iff (s : Str) :
    (∃ g, graphFromTucan s = .ok g) ↔ ∃ toks ast, lex s = some toks ∧ Sentence toks ast ∧ ast.Valid :=
  graphFromTucan_accepts_iff s

/-- what `Valid` asks, spelled out -/
theorem C10_valid_spelled_out (ast : Ast) : ast.Valid ↔
    (∀ t ∈ ast.literals, t.length ≤ intMaxStrDigits) ∧
    (∀ p ∈ ast.tuples, litVal p.1 ≤ ast.atomCount ∧ litVal p.2 ≤ ast.atomCount ∧ litVal p.1 ≠ litVal p.2) ∧
    (∀ b ∈ ast.attrs, litVal b.1 ≤ ast.atomCount) ∧ ast.settings.Nodup :=
  ⟨fun h => ⟨h.lits, h.tuples, h.attrIdx, h.once⟩, fun ⟨a, b, c, d⟩ => ⟨a, b, c, d⟩⟩

/-- **Every other string is rejected with the parser's own exception type** — never `KeyError`,
`IndexError`, `ValueError` (over-long integer literals included) or anything else. -/
theorem C10_reject_kind (s : Str) (e : PyErr) (h : graphFromTucan s = .error e) : e = .tucanParser := by
  rcases sentence_or_rejected s with ⟨toks, ast, hl, hsen⟩ | he
  · by_cases hv : ast.Valid
    · obtain ⟨g, hg⟩ := (graphFromTucan_accepts_iff s).2 ⟨toks, ast, hl, hsen, hv⟩
      rw [hg] at h
      cases h
    · rw [graphFromTucan_of_sentence hl hsen, if_neg hv] at h
      exact (Except.error.inj h).symm
  · exact (Except.error.inj (he ▸ h)).symm

/-- **The returned graph, read off the syntax tree.**  For an accepted string with tree `ast` the parser returns
the graph whose atoms are `0 … n-1`, `n` the number of atoms the formula states; atom `i` is the `i`-th symbol of
the formula's expansion (every symbol repeated as often as its count says) arranged by non-decreasing atomic
number; atoms `i`, `j` are bonded exactly when some tuple of the tree names `i+1` and `j+1`, either way round;
atom `i` has isotope mass (radical) `v` exactly when some attribute block of the tree sets `mass=v` (`rad=v`) on
index `i+1`; and no atom has a charge or coordinates.  No listener state, no helper of the reader is mentioned:
`expansion`, `valuedSettings` and `litVal` are plain functions of the tree. -/
theorem C10_denotes (s : Str) (g : Graph) (h : graphFromTucan s = .ok g) :
    ∃ toks ast, lex s = some toks ∧ Sentence toks ast ∧ ast.Valid ∧
      g.labels = List.range ast.atomCount ∧ g.WF ∧ g.Simple ∧
      (∃ syms : List Str, syms.Perm ast.expansion ∧
        syms.Pairwise (fun a b => (elementZ a).getD 0 ≤ (elementZ b).getD 0) ∧
        ∀ i (hi : i < syms.length), ∃ x z, g.attrs? i = some x ∧ x.sym = some syms[i] ∧
          elementZ syms[i] = some z ∧ x.z = some (z : Int)) ∧
      (∀ i j : Nat, g.Adj i j ↔
        ∃ p ∈ ast.tuples, (litVal p.1 = i + 1 ∧ litVal p.2 = j + 1) ∨ (litVal p.1 = j + 1 ∧ litVal p.2 = i + 1)) ∧
      (∀ (i : Nat) (x : Atom), g.attrs? i = some x →
        (∀ v : Int, x.mass = some v ↔ ∃ w : Nat, (w : Int) = v ∧ (i + 1, "mass".toList, w) ∈ ast.valuedSettings) ∧
        (∀ v : Int, x.rad = some v ↔ ∃ w : Nat, (w : Int) = v ∧ (i + 1, "rad".toList, w) ∈ ast.valuedSettings) ∧
        x.chg = none ∧ x.x = none ∧ x.y = none ∧ x.zc = none) :=
  graphFromTucan_denotes s g h

/-- **Which element sits at which index, explicitly.**  The rearrangement `C10_denotes` speaks of is
`ast.sortedSymbols`: the formula's expansion merge-sorted (stably) by atomic number, a plain function of the syntax
tree.  Atom `i` of the returned graph has the `i`-th symbol of that list and that symbol's atomic number. -/
theorem C10_elements (s : Str) (g : Graph) (h : graphFromTucan s = .ok g) :
    ∃ toks ast, lex s = some toks ∧ Sentence toks ast ∧
      ast.sortedSymbols.length = ast.atomCount ∧
      ast.sortedSymbols.Perm ast.expansion ∧
      ast.sortedSymbols.Pairwise (fun a b => (elementZ a).getD 0 ≤ (elementZ b).getD 0) ∧
      ∀ i (hi : i < ast.sortedSymbols.length), ∃ x z, g.attrs? i = some x ∧
        x.sym = some ast.sortedSymbols[i] ∧ elementZ ast.sortedSymbols[i] = some z ∧ x.z = some (z : Int) := by
  obtain ⟨toks, ast, hl, hsen, d⟩ := graphFromTucan_sentence_denotes h
  exact ⟨toks, ast, hl, hsen, ast.sortedSymbols_length, ast.sortedSymbols_perm, ast.sortedSymbols_pairwise, d.elems⟩

/-- the expansion has as many symbols as the formula states atoms -/
theorem C10_expansion_length (ast : Ast) : ast.expansion.length = ast.atomCount := ast.expansion_length

/-- **The returned graph is the denoted graph**, at the level of listener states (the step `C10_denotes` composes
with the three listeners).  For every listener state an accepted string gives rise
to (`GoodState`: atoms of the formula, bonds between different existing atoms in any order / orientation /
multiplicity, attribute records on existing atoms), `to_graph` returns the graph with exactly the atoms of
the formula numbered `0 … n-1` by increasing atomic number (stable sort of the formula's expansion),
exactly the listed attributes joined onto the indexed atoms, and exactly the listed bonds as a set. -/
theorem C10_denotation (st : ListenerState) (h : GoodState st) :
    ∃ g, toGraph st = .ok g ∧ g.labels = List.range st.atoms.length ∧ g.WF ∧ g.Simple ∧
      (∀ i, i < st.atoms.length → ∃ x, addInvariantCode (atomAt st i) = .ok x ∧ g.attrs? i = some x) ∧
      (∀ i j : Nat, g.Adj i j ↔ ((i : Int), (j : Int)) ∈ st.bonds ∨ ((j : Int), (i : Int)) ∈ st.bonds) :=
  have ⟨g, hg, r⟩ := toGraph_spec h
  ⟨g, hg, r.labels, r.wf, r.simple, r.attrs, r.adj⟩

/-- **"numbered by increasing atomic number"**: the arrangement `C10_denotation` speaks of (`sortAtomsByZ`) is a
rearrangement of the formula's atoms in which the atomic number never decreases -/
theorem C10_atoms_by_increasing_Z (l : List Atom) :
    (sortAtomsByZ l).Perm l ∧ (sortAtomsByZ l).Pairwise (fun a b => a.z.getD 0 ≤ b.z.getD 0) :=
  ⟨List.mergeSort_perm l _, List.pairwise_mergeSort_key (fun a : Atom => a.z.getD 0) l⟩

/-- the element table the parser numbers atoms by is the periodic table (regenerated from the working
tree and compared with an independently written table of the 118 IUPAC symbols) -/
theorem C10_element_table : Tables.elementTable = periodicTable := elementTable_is_periodicTable

/-- the grammar the reference reader implements is the one the executing parser tables encode: the ATN of
`tucanParser.py` and the text of `tucan.g4` agree on the two formula rules, every other rule has the
expected shape, and the lexer's literal tokens are the parser's -/
theorem C10_grammar_tables :
    (Tables.atnWithCarbon = Tables.g4WithCarbon ∧ Tables.atnWithoutCarbon = Tables.g4WithoutCarbon ∧
      Tables.atnElementRulesWellShaped = true) ∧
    Tables.atnRuleShapes = expectedRuleShapes ∧
    Tables.lexLiterals = Tables.parserLiteralNames :=
  ⟨atn_matches_g4, atn_rule_shapes, lexer_tables.1⟩

/-- non-vacuity: a concrete string is lexed and recognised, a concrete non-sentence is not -/
example :
    lex ['C','2','/','(','1','-','2',')'] =
      some [.lit ['C'], .lit ['2'], .lit ['/'], .lit ['('], .lit ['1'], .lit ['-'], .lit ['2'], .lit [')']] ∧
    (parseTucan [.lit ['C'], .lit ['2'], .lit ['/'], .lit ['('], .lit ['1'], .lit ['-'], .lit ['2'], .lit [')']]).isSome = true ∧
    parseTucan [.lit ['C'], .lit ['/'], .lit ['('], .lit ['1'], .lit ['-'], .lit ['2']] = none := by
  have hsen := MoreExamples.sentence_C2 (a := .lit ['1']) (b := .lit ['2']) rfl rfl
  -- `C` is a symbol of the formula rules, the others are fixed literals: the lexer's literal list is not evaluated
  have hlex := lex_render_sentence hsen fun t ht => by
    rcases List.mem_cons.1 ht with rfl | ht
    · exact LexRender.sym_valid (mem_elementSyms_of_mem_order (List.mem_append_left _ (withCarbonOrder_eq ▸ List.mem_cons_self)))
    · exact LexRender.validTok_of_fixed (List.all_eq_true.1 (by decide +kernel) t ht)
  refine ⟨hlex, Option.isSome_iff_exists.2 ⟨_, (parseTucan_iff _ _).2 hsen⟩, ?_⟩
  -- the formula `C` is read up to `/`; the tuple after it is not closed
  have := Sentence.formula_complete (.withCarbon (ts := []) withCarbonOrder_eq (.done _))
    [.lit ['('], .lit ['1'], .lit ['-'], .lit ['2']]
  simp only [Sentence.tk_slash, List.cons_append, List.nil_append] at this
  unfold parseTucan
  rw [this]
  rfl

/-- non-vacuity of `C10_denotes`: the tree of `CH2O/…` states the atoms C, H, H, O -/
example : MoreExamples.astA.expansion = [['C'], ['H'], ['H'], ['O']] ∧ MoreExamples.astA.atomCount = 4 := by
  constructor <;> decide +kernel

/-- non-vacuity of `C10_accepts_iff`: the tree of `CH2O/(1-3)(2-3)(3-4)/(3:mass=13,rad=2)` is valid -/
example : MoreExamples.astA.Valid := MoreExamples.astA_valid

end Tucan
