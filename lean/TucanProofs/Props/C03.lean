import TucanProofs.Lemmas.RoundTrip
import TucanProofs.Lemmas.Canonical
import TucanProofs.Examples
import TucanProofs.Lemmas.FilesMol
import TucanProofs.Lemmas.IsoExample
/-!
# C03 — a TUCAN string reconstructs its molecule and is a fixed point of the pipeline

Domain (`Graph.MolAtoms`): every atom is a chemistry-level atom (`sym = table[Z]`, invariant code
`(Z, mass or 0, rad or 0)`, "no label" is absence, never 0) with an element symbol of the table and strictly
positive mass / radical values — what the readers and the parser produce.  `hsize` excludes molecules with
more than 10^4300 atoms (CPython's integer-literal limit).
-/
namespace Tucan

/-- **Reconstruction.**  `graph_from_tucan(tucan(G))` is `G` under a renaming of its atoms: the same element,
isotope mass and radical on every corresponding atom, the same bonds, the same number of atoms; needs only
that the oracle answers with a permutation (checked on every real call). -/
theorem C03_roundtrip (order : Graph → List Nat) (hperm : ∀ r : Graph, r.WF → (order r).Perm r.labels)
    (g : Graph) (hw : g.WF) (hs : g.Simple) (hmol : g.MolAtoms)
    (hsize : (natRepr (g.numberOfNodes + 1)).length ≤ intMaxStrDigits)
    (s : Str) (h : tucanOf order g = .ok s) :
    ∃ (H : Graph) (τ : Nat → Nat), graphFromTucan s = .ok H ∧ Iso SameIdent τ g H ∧
      H.numberOfNodes = g.numberOfNodes ∧ H.numberOfEdges = g.numberOfEdges := by
  obtain ⟨H, τ, P⟩ := pipeline_parsedBack hperm hw hs hmol hsize h
  exact ⟨H, τ, P.parse, P.iso, P.iso.numberOfNodes, P.iso.numberOfEdges hw hs P.wf P.simple⟩

/-- **… for every graph of a conformant molecule**: the string of a graph `g` of a molecule a molfile can state
within the CTfile specification (`IsGraphOf g m c`: what either reader returns for a file stating `m`,
`C06_v3000_file_any_indices` / `C06_readsAs_graph_of`) parses back to that graph under a renaming of its atoms.
(With the file's text inside the statement: `C15_v3000_text_to_string`.) -/
theorem C03_molfile_roundtrip (order : Graph → List Nat) (hperm : ∀ r : Graph, r.WF → (order r).Perm r.labels)
    (g : Graph) (m : Mol) (c : List (Str × Str × Str)) (hc : c.length = m.atoms.length)
    (hm : m.Conformant) (hg : IsGraphOf g m c)
    (hsize : (natRepr (m.atoms.length + 1)).length ≤ intMaxStrDigits)
    (s : Str) (h : tucanOf order g = .ok s) : ∃ H τ, graphFromTucan s = .ok H ∧ Iso SameIdent τ g H := by
  obtain ⟨hw, hs, hmol, hsz⟩ := hg.roundtrip_domain hm hc hsize
  obtain ⟨H, τ, P⟩ := pipeline_parsedBack hperm hw hs hmol hsz h
  exact ⟨H, τ, P.parse, P.iso⟩

/-- the text the three writers assemble for a graph `m` (`serializedText m`: formula, tuples, attribute blocks) is
accepted by the parser — it lexes and is a sentence of the grammar with tree `astOf m` — for ANY graph `m` with
table symbols and positive labels.  The pipeline applies it to the canonical graph after the final relabelling and
the sort by atomic number; the statement about the pipeline's own output is `C05_emitted_layout` /
`C05_emitted_is_sentence`. -/
theorem C03_emitted_string_parses (m : Graph)
    (hsyms : ∀ s ∈ m.nodes.filterMap (·.attrs.sym), s ∈ elementSyms)
    (hpos : ∀ n ∈ m.nodes, (∀ v, n.attrs.mass = some v → 0 < v) ∧ (∀ v, n.attrs.rad = some v → 0 < v)) :
    ∃ toks, lex (serializedText m) = some toks ∧ parseTucan toks = some (astOf m) ∧ Sentence toks (astOf m) :=
  serialize_parses m hsyms hpos

/-- **Fixed point.**  Canonicalizing and serializing the parsed graph reproduces the identical string, for
every oracle meeting the bliss contract. -/
theorem C03_fixed_point (O : CanonOracle) (g : Graph) (hw : g.WF) (hs : g.Simple) (hmol : g.MolAtoms)
    (hsize : (natRepr (g.numberOfNodes + 1)).length ≤ intMaxStrDigits)
    (s : Str) (h : tucanOf O.order g = .ok s) :
    ∃ H, graphFromTucan s = .ok H ∧ tucanOf O.order H = .ok s :=
  pipeline_fixed_point O g hw hs hmol hsize s h

/-- the contract `C03_fixed_point` quantifies over is satisfiable -/
theorem C03_oracle_contract_inhabited : Nonempty CanonOracle := CanonOracle.nonempty

/-- non-vacuity: a concrete molecule meets all hypotheses -/
example : exGraph.WF ∧ exGraph.Simple ∧ exGraph.MolAtoms ∧
    (natRepr (exGraph.numberOfNodes + 1)).length ≤ intMaxStrDigits :=
  ⟨exGraph_wf, exGraph_simple, exGraph_molAtoms, by decide⟩

end Tucan
