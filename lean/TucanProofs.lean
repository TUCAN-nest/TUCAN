import TucanProofs.Spec
import TucanProofs.Oracle
import TucanProofs.Examples
import TucanProofs.Lemmas.Basics.List
import TucanProofs.Lemmas.Basics.AList
import TucanProofs.Lemmas.Basics.PyM
import TucanProofs.Lemmas.Basics.Text
import TucanProofs.Lemmas.Basics.Order
import TucanProofs.Lemmas.Splice
import TucanProofs.Lemmas.Tables
import TucanProofs.Lemmas.Partition
import TucanProofs.Lemmas.Refine
import TucanProofs.Lemmas.GraphBasics
import TucanProofs.Lemmas.NxRelabel
import TucanProofs.Lemmas.NxEdges
import TucanProofs.Lemmas.Iso
import TucanProofs.Lemmas.Bfs
import TucanProofs.Lemmas.Hill
import TucanProofs.Lemmas.LexRender
import TucanProofs.Lemmas.Sentence
import TucanProofs.Lemmas.SentenceShape
import TucanProofs.Lemmas.AcceptIff
import TucanProofs.Lemmas.SerializeRun
import TucanProofs.Lemmas.SerializeCongr
import TucanProofs.Lemmas.SerializeTokens
import TucanProofs.Lemmas.Domain
import TucanProofs.Lemmas.Canonical
import TucanProofs.Lemmas.Permute
import TucanProofs.Lemmas.Pipeline
import TucanProofs.Lemmas.GraphFromMolecule
import TucanProofs.Lemmas.LineMachinery
import TucanProofs.Lemmas.V2000
import TucanProofs.Lemmas.RoundTrip
import TucanProofs.Lemmas.ParserDenotation
import TucanProofs.Lemmas.WriteRead
import TucanProofs.Lemmas.V3000Lines
import TucanProofs.Lemmas.AstDenotation
import TucanProofs.Lemmas.V2000File
import TucanProofs.Lemmas.V3000File
import TucanProofs.Lemmas.LayoutString
import TucanProofs.Lemmas.Chain
import TucanProofs.Lemmas.IsoExample
import TucanProofs.Lemmas.Respell
import TucanProofs.Lemmas.Written
import TucanProofs.Lemmas.MolfileText
import TucanProofs.Lemmas.SplitLines
import TucanProofs.Props.C01
import TucanProofs.Props.C02
import TucanProofs.Props.C03
import TucanProofs.Props.C04
import TucanProofs.Props.C05
import TucanProofs.Props.C06
import TucanProofs.Props.C07
import TucanProofs.Props.C08
import TucanProofs.Props.C09
import TucanProofs.Props.C10
import TucanProofs.Props.C11
import TucanProofs.Props.C12
import TucanProofs.Props.C13
import TucanProofs.Props.C14
import TucanProofs.Props.C15
import TucanProofs.Props.C16
import TucanProofs.Lemmas.Agreement
import TucanProofs.Lemmas.Files
import TucanProofs.Lemmas.FilesExample
import TucanProofs.Lemmas.FilesPerm
import TucanProofs.Lemmas.FilesMol
import TucanProofs.Lemmas.MoreExamples

import TucanProofs.Lemmas.TablesPin
import TucanProofs.Lemmas.StarExample
