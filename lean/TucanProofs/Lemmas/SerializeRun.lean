import TucanModel.Serialize
import TucanProofs.Lemmas.Basics.PyM
/-!
# What a run of `serialize_molecule` that returns has computed

The BFS labels of the argument (scratch flags reset), the relabelled graph sorted by atomic number, and the text the
three writers assemble for it (`serializedText`): the one statement both the graph-level and the token-level files
read the serializer through.
-/
namespace Tucan

/-- the string `serialize_molecule` assembles from the three writers -/
def serializedText (m : Graph) : Str :=
  writeSumFormula m ++ '/' :: writeEdgeList m ++
    (if (writeNodeAttributes m).isEmpty then [] else '/' :: writeNodeAttributes m)

theorem assignFinalLabels_eq_ok {g : Graph} {t : Graph × Graph × List (Nat × Nat)} :
    assignFinalLabels g = .ok t ↔ g.nodes.any (·.attrs.part.isNone) = false ∧
      ∃ fl, finalLabels g.resetExplored.view = .ok fl ∧ t = (g.resetExplored.relabelCopy fl, g.resetExplored, fl) := by
  unfold assignFinalLabels
  cases g.nodes.any (·.attrs.part.isNone) with
  | true => exact ⟨fun h => (nomatch h), fun h => (nomatch h.1)⟩
  | false =>
    simp only [Bool.false_eq_true, if_false, PyM.bind_eq_ok, true_and]
    exact exists_congr fun fl => and_congr_right fun _ => ⟨fun h => (Except.ok.inj h).symm, fun h => h ▸ rfl⟩

theorem serializeMolecule_eq_ok {g : Graph} {s : Str} {p : Graph} :
    serializeMolecule g = .ok (s, p) ↔
      g.nodes.any (·.attrs.part.isNone) = false ∧ ∃ fl m, finalLabels g.resetExplored.view = .ok fl ∧
        sortMoleculeByAttribute (g.resetExplored.relabelCopy fl) .atomicNumber = .ok m ∧
        s = serializedText m ∧ p = g.resetExplored := by
  simp only [serializeMolecule, PyM.bind_eq_ok, assignFinalLabels_eq_ok]
  constructor
  · rintro ⟨_, ⟨hg, fl, hfl, rfl⟩, m, hm, h⟩
    -- (not `cases h`: it tries to unify `s` with the assembled text before it injects)
    obtain ⟨hs, hp⟩ := Prod.mk.inj (Except.ok.inj h)
    exact ⟨hg, fl, m, hfl, hm, hs.symm, hp.symm⟩
  · rintro ⟨hg, fl, m, hfl, hm, hs, hp⟩
    exact ⟨_, ⟨hg, fl, hfl, rfl⟩, m, hm, hs ▸ hp ▸ rfl⟩

theorem serializeMolecule_post {g : Graph} {s : Str} {p : Graph} (h : serializeMolecule g = .ok (s, p)) :
    p = g.resetExplored :=
  let ⟨_, _, _, _, _, _, hp⟩ := serializeMolecule_eq_ok.mp h
  hp

/-- the string returned by `serialize_molecule` is `serializedText` of the sorted molecule -/
theorem serializeMolecule_text (c : Graph) (s : Str) (p : Graph) (h : serializeMolecule c = .ok (s, p)) :
    ∃ fl g' lab m, assignFinalLabels c = .ok (fl, g', lab) ∧ sortMoleculeByAttribute fl .atomicNumber = .ok m ∧
      s = serializedText m :=
  let ⟨hg, fl, m, hfl, hm, hs, _⟩ := serializeMolecule_eq_ok.mp h
  ⟨_, _, fl, m, assignFinalLabels_eq_ok.mpr ⟨hg, fl, hfl, rfl⟩, hm, hs⟩

end Tucan
