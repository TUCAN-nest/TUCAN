import TucanProofs.Lemmas.V2000File
import TucanProofs.Lemmas.V3000File
import TucanProofs.Lemmas.GraphFromMolecule
import TucanProofs.Lemmas.Domain
/-!
# One molecule, two formats

An abstract molecule `Mol` and what it means for a V3000 atom and bond block (`V3StatesIdx`: any pairwise distinct
indices in any order; `V3States`: the indices `1 … n`) or a V2000 table (`V2StatesRep`: property lines may name an
atom again, the last entry counting; `V2States`: every atom with a value named once) to *state* it, in every way the
format allows.  Everything turns on the dictionaries of the molecule with atom `i` under a key `κ i`, `κ` injective on
the atoms (`Mol.atomsAt`, `Mol.bondsAt`; `m.atomDict`, `m.bondDict` are the case `κ i = i`): the lines of a table
stating `m` are their entries, so the readers return them, and `graph_from_molecule` turns them, whatever the keys,
into a graph *of* the molecule (`IsGraphOf`), about which the file-level theorems (`Files`, `FilesPerm`, `FilesMol`)
are said.
-/
namespace Tucan

/-- an atom as a file states it -/
structure MAtom where
  sym : Str          -- as written: an element symbol, `D` or `T`
  chg : Int          -- 0 = none
  rad : Int          -- 0 = none
  mass : Int         -- 0 = none (for `D` / `T`: 0, the symbol carries the mass)

/-- a bond between the atoms at (0-based) positions `a` and `b` -/
structure MBond where
  a : Nat
  b : Nat
  t : Int

/-- a molecule as a connection table states it: atoms by position, bonds between positions -/
structure Mol where
  atoms : List MAtom
  bonds : List MBond

/-- a numeric field as both readers read it: 0 states nothing -/
def nzI (v : Int) : Option Int := if v = 0 then none else some v

theorem Agree.nzI_some {v w : Int} (h : nzI v = some w) : v = w ∧ v ≠ 0 := by
  unfold nzI at h
  split at h
  · cases h
  · next h0 => exact ⟨Option.some.inj h, h0⟩

theorem Agree.nonZero_some (v : Int) : nonZero (some v) = nzI v := by
  unfold nzI nonZero
  split <;> simp_all

structure Mol.Ok (m : Mol) : Prop where
  sym : ∀ a ∈ m.atoms, a.sym ∈ elementSyms ∨ a.sym = ['D'] ∨ a.sym = ['T']
  -- a `D` / `T` carries its mass in the symbol and none beside it
  dt : ∀ a ∈ m.atoms, (detectHydrogenIsotopes a.sym).2 ≠ 0 → a.mass = 0
  bonds : ∀ b ∈ m.bonds, b.a < m.atoms.length ∧ b.b < m.atoms.length ∧ b.a ≠ b.b
  -- no pair of atoms is bonded twice, in either orientation
  nodup : (m.bonds.map fun b => if b.a ≤ b.b then (b.a, b.b) else (b.b, b.a)).Nodup

/-- `D` / `T` are tested before the table: a symbol that is no element costs a pass over all its 118 rows -/
instance (m : Mol) : Decidable m.Ok :=
  decidable_of_iff ((∀ a ∈ m.atoms, (a.sym = ['D'] ∨ a.sym = ['T']) ∨ a.sym ∈ elementSyms) ∧ _ ∧ _ ∧ _)
    ⟨fun ⟨a, b, c, d⟩ => ⟨fun x hx => (a x hx).symm, b, c, d⟩, fun ⟨a, b, c, d⟩ => ⟨fun x hx => (a x hx).symm, b, c, d⟩⟩

/-- the attribute record both readers return for an atom; `c` are the coordinates as that file spells them -/
def MAtom.record (a : MAtom) (c : Str × Str × Str) : Atom :=
  { sym := some (detectHydrogenIsotopes a.sym).1,
    z := (match atomicNumberOf (detectHydrogenIsotopes a.sym).1 with | .ok v => some v | .error _ => none),
    part := some 0, x := some c.1, y := some c.2.1, zc := some c.2.2,
    chg := nzI a.chg, rad := nzI a.rad,
    mass := if (detectHydrogenIsotopes a.sym).2 = 0 then nzI a.mass else some (detectHydrogenIsotopes a.sym).2 }

def Mol.atomDict (m : Mol) (coords : List (Str × Str × Str)) : List (Int × Atom) :=
  (m.atoms.zip coords).zipIdx.map fun (p, i) => ((i : Int), p.1.record p.2)

/-- inserted bond by bond, as the readers do; for `m.Ok` that is one entry per bond, in order (`Mol.bondDict_eq`) -/
def Mol.bondDict (m : Mol) : List ((Int × Int) × Bond) :=
  m.bonds.foldl (fun d b => ainsert ((b.a : Int), (b.b : Int)) ({ btype := some b.t } : Bond) d) []

/-- the `i`-th atom line of a V3000 file states atom `a` with coordinates `c` -/
def V3StatesAtom (a : MAtom) (i : Nat) (c : Str × Str × Str) (e : AtomEntry) : Prop :=
  ∃ idxTok aamap ps, e = .real idxTok ((i : Int) + 1) a.sym c.1 c.2.1 c.2.2 aamap ps ∧
    lastNonZero (chgValues ps) = nzI a.chg ∧ lastNonZero (radValues ps) = nzI a.rad ∧
    ((detectHydrogenIsotopes a.sym).2 = 0 → lastNonZero (massValues ps) = nzI a.mass)

def V3StatesBond (b : MBond) (e : BondEntry) : Prop :=
  e.btype = b.t ∧ e.a1 = (b.a : Int) + 1 ∧ e.a2 = (b.b : Int) + 1

structure V3States (m : Mol) (coords : List (Str × Str × Str)) (atoms : List AtomEntry) (bonds : List BondEntry) : Prop where
  nAtoms : atoms.length = m.atoms.length ∧ coords.length = m.atoms.length
  nBonds : bonds.length = m.bonds.length
  atom : ∀ i (h : i < m.atoms.length) (h1 : i < coords.length) (h2 : i < atoms.length),
    V3StatesAtom m.atoms[i] i coords[i] atoms[i]
  bond : ∀ j (h : j < m.bonds.length) (h2 : j < bonds.length), V3StatesBond m.bonds[j] bonds[j]

/-- the `i`-th atom line states atom `a` under the index `k` -/
def V3StatesAtomIdx (a : MAtom) (k : Int) (c : Str × Str × Str) (e : AtomEntry) : Prop :=
  ∃ idxTok aamap ps, e = .real idxTok k a.sym c.1 c.2.1 c.2.2 aamap ps ∧
    lastNonZero (chgValues ps) = nzI a.chg ∧ lastNonZero (radValues ps) = nzI a.rad ∧
    ((detectHydrogenIsotopes a.sym).2 = 0 → lastNonZero (massValues ps) = nzI a.mass)

theorem V3StatesAtomIdx.real_iff {a : MAtom} {k : Int} {c : Str × Str × Str} {t : Str} {k' : Int} {s x y z aa : Str}
    {ps : List AtomProp} : V3StatesAtomIdx a k c (.real t k' s x y z aa ps) ↔
      (k' = k ∧ s = a.sym ∧ x = c.1 ∧ y = c.2.1 ∧ z = c.2.2) ∧
        lastNonZero (chgValues ps) = nzI a.chg ∧ lastNonZero (radValues ps) = nzI a.rad ∧
        ((detectHydrogenIsotopes a.sym).2 = 0 → lastNonZero (massValues ps) = nzI a.mass) := by
  constructor
  · rintro ⟨_, _, _, h, h6⟩
    cases h
    exact ⟨⟨rfl, rfl, rfl, rfl, rfl⟩, h6⟩
  · rintro ⟨⟨rfl, rfl, rfl, rfl, rfl⟩, h6⟩
    exact ⟨t, aa, ps, rfl, h6⟩

instance (a : MAtom) (k : Int) (c : Str × Str × Str) : (e : AtomEntry) → Decidable (V3StatesAtomIdx a k c e)
  | .star .. => isFalse fun ⟨_, _, _, h, _⟩ => nomatch h
  | .real .. => decidable_of_iff' _ V3StatesAtomIdx.real_iff

instance (a : MAtom) (i : Nat) (c : Str × Str × Str) (e : AtomEntry) : Decidable (V3StatesAtom a i c e) :=
  inferInstanceAs (Decidable (V3StatesAtomIdx a ((i : Int) + 1) c e))

/-- a V3000 atom and bond block stating `m` with the atom indices `idx` (any pairwise distinct integers, in
any order); bond lines refer to atoms by index -/
structure V3StatesIdx (m : Mol) (idx : List Int) (coords : List (Str × Str × Str)) (atoms : List AtomEntry)
    (bonds : List BondEntry) : Prop where
  nIdx : idx.length = m.atoms.length
  distinct : idx.Nodup
  nAtoms : atoms.length = m.atoms.length ∧ coords.length = m.atoms.length
  nBonds : bonds.length = m.bonds.length
  atom : ∀ i (h : i < m.atoms.length) (h0 : i < idx.length) (h1 : i < coords.length) (h2 : i < atoms.length),
    V3StatesAtomIdx m.atoms[i] idx[i] coords[i] atoms[i]
  bond : ∀ j (h : j < m.bonds.length) (h2 : j < bonds.length) (ha : m.bonds[j].a < idx.length) (hb : m.bonds[j].b < idx.length),
    bonds[j].btype = m.bonds[j].t ∧ bonds[j].a1 = idx[m.bonds[j].a] ∧ bonds[j].a2 = idx[m.bonds[j].b]

def Mol.atomsAt (m : Mol) (κ : Nat → Int) (c : List (Str × Str × Str)) : List (Int × Atom) :=
  (m.atoms.zip c).zipIdx.map fun (p, i) => (κ i, p.1.record p.2)

def Mol.bondsAt (m : Mol) (κ : Nat → Int) : List ((Int × Int) × Bond) :=
  m.bonds.map fun b => ((κ b.a, κ b.b), { btype := some b.t })

def Mol.Keyed (m : Mol) (κ : Nat → Int) : Prop := ∀ i < m.atoms.length, ∀ j < m.atoms.length, κ i = κ j → i = j

namespace Mol
variable {m : Mol} {κ : Nat → Int} {c : List (Str × Str × Str)}

theorem atomDict_eq (m : Mol) (c : List (Str × Str × Str)) : m.atomDict c = m.atomsAt (fun i => (i : Int)) c := rfl

theorem atomsAt_length (hc : c.length = m.atoms.length) : (m.atomsAt κ c).length = m.atoms.length := by
  simp [atomsAt, hc]

theorem atomsAt_getElem {i : Nat} (h : i < (m.atomsAt κ c).length) (h1 : i < m.atoms.length) (h2 : i < c.length) :
    (m.atomsAt κ c)[i] = (κ i, m.atoms[i].record c[i]) := by
  simp [atomsAt]

theorem atomsAt_keys (hc : c.length = m.atoms.length) :
    (m.atomsAt κ c).map (·.1) = (List.range m.atoms.length).map κ := by
  rw [atomsAt, keys_zipIdx_map κ fun p : MAtom × Str × Str × Str => p.1.record p.2, List.length_zip, hc, Nat.min_self]

theorem atomsAt_keys_nodup (hc : c.length = m.atoms.length)
    (hκ : m.Keyed κ) : ((m.atomsAt κ c).map (·.1)).Nodup :=
  (keyPos_of_keys (atomsAt_keys hc) hκ).1

theorem Ok.bond_unique (hm : m.Ok) (hκ : m.Keyed κ)
    {b b' : MBond} (hb : b ∈ m.bonds) (hb' : b' ∈ m.bonds)
    (h : (κ b.a = κ b'.a ∧ κ b.b = κ b'.b) ∨ (κ b.a = κ b'.b ∧ κ b.b = κ b'.a)) : b = b' := by
  obtain ⟨h1, h2, -⟩ := hm.bonds b hb
  obtain ⟨h1', h2', -⟩ := hm.bonds b' hb'
  refine List.Nodup.inj_on_of_map hm.nodup b hb b' hb' (orderedPair_eq_iff.2 ?_)
  exact h.imp (fun h => ⟨hκ _ h1 _ h1' h.1, hκ _ h2 _ h2' h.2⟩) fun h => ⟨hκ _ h1 _ h2' h.1, hκ _ h2 _ h1' h.2⟩

theorem bondsAt_keys_nodup (hm : m.Ok) (hκ : m.Keyed κ) :
    ((m.bondsAt κ).map (·.1)).Nodup := by
  rw [bondsAt, List.map_map]
  exact (List.Nodup.of_map _ hm.nodup).map_on _ fun b hb b' hb' he =>
    hm.bond_unique hκ hb hb' (Or.inl (Prod.mk.inj he))

theorem bondsAt_keys_mem (hm : m.Ok) (hc : c.length = m.atoms.length) :
    ∀ p ∈ m.bondsAt κ, p.1.1 ∈ (m.atomsAt κ c).map (·.1) ∧ p.1.2 ∈ (m.atomsAt κ c).map (·.1) := by
  rw [atomsAt_keys hc]
  refine List.forall_mem_map.2 fun b hb => ?_
  obtain ⟨h1, h2, -⟩ := hm.bonds b hb
  exact ⟨List.mem_map_of_mem (List.mem_range.2 h1), List.mem_map_of_mem (List.mem_range.2 h2)⟩

theorem keyed_cast (m : Mol) : m.Keyed fun i => (i : Int) := fun _ _ _ _ h => Int.ofNat.inj h

theorem bondDict_eq (hm : m.Ok) : m.bondDict = m.bondsAt fun i => (i : Int) :=
  foldl_ainsert_eq _ _ m.bonds [] rfl (bondsAt_keys_nodup hm m.keyed_cast)

end Mol

theorem V3StatesAtomIdx.reads {a : MAtom} {k : Int} {c : Str × Str × Str} {e : AtomEntry}
    (h : V3StatesAtomIdx a k c e) : e.idx = k ∧ e.record = some (a.record c) := by
  obtain ⟨idxTok, aamap, ps, rfl, hc, hr, hms⟩ := h
  refine ⟨rfl, ?_⟩
  rw [AtomEntry.record, MAtom.record, hc, hr, ite_congr rfl hms fun _ => rfl]
  -- what is left differs in which compiled copy of the `match` on `atomicNumberOf …` stands there; on the term itself
  -- `rfl` would evaluate the table lookup
  generalize atomicNumberOf _ = z
  rfl

theorem V3StatesIdx.keyed {m : Mol} {idx : List Int} {coords : List (Str × Str × Str)} {atoms : List AtomEntry}
    {bonds : List BondEntry} (h : V3StatesIdx m idx coords atoms bonds) {κ : Nat → Int}
    (hκ : ∀ i (hi : i < idx.length), κ i = idx[i] - 1) : m.Keyed κ := by
  intro i hi j hj e
  rw [hκ i (h.nIdx ▸ hi), hκ j (h.nIdx ▸ hj)] at e
  exact (List.getElem_inj h.distinct).1 ((Int.sub_left_inj 1).1 e)

/-- **the atom lines and bond lines of a block stating `m` under the indices `idx` are, in order, the entries of the
molecule's dictionaries**, atom `i` under the key `idx[i] - 1` -/
theorem V3StatesIdx.entries {m : Mol} {idx : List Int} {coords : List (Str × Str × Str)} {atoms : List AtomEntry}
    {bonds : List BondEntry} (h : V3StatesIdx m idx coords atoms bonds) (hm : m.Ok) {κ : Nat → Int}
    (hκ : ∀ i (hi : i < idx.length), κ i = idx[i] - 1) :
    atoms.map (fun e => (e.idx - 1, e.record)) = (m.atomsAt κ coords).map (fun p => (p.1, some p.2)) ∧
      bonds.map (fun b => ((b.a1 - 1, b.a2 - 1), ({ btype := some b.btype } : Bond))) = m.bondsAt κ := by
  obtain ⟨hnI, -, ⟨hn1, hn2⟩, hnB, hatom, hbond⟩ := h
  constructor
  · refine List.map_eq_map_of_getElem (hn1.trans (Mol.atomsAt_length hn2).symm) fun i hi h' => ?_
    have hi' : i < m.atoms.length := hn1 ▸ hi
    obtain ⟨e1, e2⟩ := (hatom i hi' (hnI ▸ hi') (hn2 ▸ hi') hi).reads
    rw [Mol.atomsAt_getElem _ hi' (hn2 ▸ hi'), e1, e2, hκ i (hnI ▸ hi')]
  · refine List.map_eq_map_of_getElem hnB fun j hj hj' => ?_
    obtain ⟨ha, hb, -⟩ := hm.bonds m.bonds[j] (List.getElem_mem hj')
    obtain ⟨b1, b2, b3⟩ := hbond j hj' hj (hnI ▸ ha) (hnI ▸ hb)
    rw [b1, b2, b3, hκ _ (hnI ▸ ha), hκ _ (hnI ▸ hb)]

def oneUp (n : Nat) : List Int := (List.range n).map fun (i : Nat) => (i : Int) + 1

theorem getElem_oneUp {n i : Nat} (h : i < (oneUp n).length) : (oneUp n)[i] = (i : Int) + 1 := by
  simp [oneUp]

theorem V3States.toIdx {m : Mol} {coords : List (Str × Str × Str)} {atoms : List AtomEntry} {bonds : List BondEntry}
    (h : V3States m coords atoms bonds) : V3StatesIdx m (oneUp m.atoms.length) coords atoms bonds := by
  refine ⟨by simp [oneUp], List.nodup_range.map_on _ fun _ _ _ _ e => by omega, h.nAtoms, h.nBonds, ?_, ?_⟩
  · intro i hi h0 h1 h2
    rw [getElem_oneUp]
    exact h.atom i hi h1 h2
  · intro j hj h2 ha hb
    rw [getElem_oneUp, getElem_oneUp]
    exact h.bond j hj h2

/-- the atoms with a non-zero value under `f`, with that value, in atom order -/
def entriesOf (f : MAtom → Int) (atoms : List MAtom) : List (Int × Int) :=
  atoms.zipIdx.filterMap fun (a, i) => if f a = 0 then none else some ((i : Int), f a)

/-- all entries of the property lines of one kind, concatenated in file order -/
def blockEntries (key : PropKey) (bl : List BlockLine) : List (Int × Int) :=
  bl.flatMap fun
    | .assign k entries => if k == key then entries else []
    | .other => []

structure V2States (m : Mol) (atoms : List V2Atom) (bonds : List V2Bond) (bl : List BlockLine) : Prop where
  nAtoms : atoms.length = m.atoms.length
  nBonds : bonds.length = m.bonds.length
  sym : ∀ i (h : i < m.atoms.length) (h2 : i < atoms.length), atoms[i].sym = m.atoms[i].sym
  /-- charges and radicals: by the charge codes, or by property lines listing every atom with a value once -/
  chgRad :
    (hasChgOrRad bl = false ∧ ∀ i (h : i < m.atoms.length) (h2 : i < atoms.length),
        chargeCode atoms[i].code = (nzI m.atoms[i].chg, nzI m.atoms[i].rad)) ∨
    (hasChgOrRad bl = true ∧ (blockEntries .chg bl).Perm (entriesOf (·.chg) m.atoms) ∧
        (blockEntries .rad bl).Perm (entriesOf (·.rad) m.atoms))
  iso : (blockEntries .mass bl).Perm (entriesOf (·.mass) m.atoms)
  bond : ∀ j (h : j < m.bonds.length) (h2 : j < bonds.length),
    bonds[j].a = (m.bonds[j].a : Int) + 1 ∧ bonds[j].b = (m.bonds[j].b : Int) + 1 ∧ bonds[j].t = m.bonds[j].t

/-- the coordinates as the V2000 atom block spells them -/
def v2Coords (atoms : List V2Atom) : List (Str × Str × Str) :=
  atoms.map fun a => (v2Coord a.fx, v2Coord a.fy, v2Coord a.fz)

namespace Agree

theorem filter_allAssignments (key : PropKey) (k : Int) (bl : List BlockLine) :
    (allAssignments bl).filter (fun a => a.1 == key && a.2.1 == k) =
      ((blockEntries key bl).filter (·.1 == k)).map (fun e => (key, e.1, e.2)) := by
  simp only [allAssignments, blockEntries, List.filter_flatMap, List.map_flatMap]
  congr 1
  funext b
  cases b with
  | other => rfl
  | assign k' entries =>
    by_cases hk : k' = key
    · subst hk
      simp [List.filter_map, Function.comp_def]
    · have : (k' == key) = false := by simpa using hk
      simp [List.filter_map, Function.comp_def, this]

theorem lastAssigned_eq (key : PropKey) (k : Int) (bl : List BlockLine) :
    lastAssigned (allAssignments bl) key k = (((blockEntries key bl).filter (·.1 == k)).getLast?).map (·.2) := by
  unfold lastAssigned
  rw [filter_allAssignments, List.getLast?_map, Option.map_map]
  rfl

theorem blockEntries_of_no_chgRad {bl : List BlockLine} (h : hasChgOrRad bl = false) (key : PropKey)
    (hk : key ≠ .mass) : blockEntries key bl = [] := by
  rw [blockEntries, List.flatMap_eq_nil_iff]
  intro b hm
  have hb := List.any_eq_false.1 h b hm
  cases b with
  | other => rfl
  | assign k entries =>
    cases k with
    | chg => exact absurd rfl hb
    | rad => exact absurd rfl hb
    | mass =>
      cases key with
      | mass => exact absurd rfl hk
      | chg => rfl
      | rad => rfl

theorem mem_entriesOf {f : MAtom → Int} {atoms : List MAtom} {e : Int × Int} :
    e ∈ entriesOf f atoms ↔ ∃ (i : Nat) (h : i < atoms.length), f atoms[i] ≠ 0 ∧ e = ((i : Int), f atoms[i]) := by
  simp only [entriesOf, List.mem_filterMap, List.mem_zipIdx_iff_getElem?, Prod.exists]
  constructor
  · rintro ⟨a, i, ha, he⟩
    obtain ⟨hi, rfl⟩ := List.getElem?_eq_some_iff.1 ha
    split at he
    · cases he
    · next hz => exact ⟨i, hi, hz, (Option.some.inj he).symm⟩
  · rintro ⟨i, hi, hz, rfl⟩
    exact ⟨atoms[i], i, List.getElem?_eq_getElem hi, if_neg hz⟩

end Agree

/-- `es` (entries `(0-based atom, value)` in file order) states `f` on `atoms`, repetitions allowed: the last
entry naming an atom carries its value, an atom named by no entry has the value 0 (= none) -/
def LastStates (f : MAtom → Int) (atoms : List MAtom) (es : List (Int × Int)) : Prop :=
  ∀ i (h : i < atoms.length),
    match (es.filter (·.1 == (i : Int))).getLast? with
    | none => f atoms[i] = 0
    | some e => e.2 = f atoms[i]

instance (f : MAtom → Int) (atoms : List MAtom) (es : List (Int × Int)) : Decidable (LastStates f atoms es) :=
  @Nat.decidableBallLT _ _ fun i _ => by
    cases (es.filter (·.1 == (i : Int))).getLast? <;> exact inferInstance

structure V2StatesRep (m : Mol) (atoms : List V2Atom) (bonds : List V2Bond) (bl : List BlockLine) : Prop where
  nAtoms : atoms.length = m.atoms.length
  nBonds : bonds.length = m.bonds.length
  sym : ∀ i (h : i < m.atoms.length) (h2 : i < atoms.length), atoms[i].sym = m.atoms[i].sym
  /-- charges and radicals: by the charge codes, or by property lines (then the codes are superseded) -/
  chgRad :
    (hasChgOrRad bl = false ∧ ∀ i (h : i < m.atoms.length) (h2 : i < atoms.length),
        chargeCode atoms[i].code = (nzI m.atoms[i].chg, nzI m.atoms[i].rad)) ∨
    (hasChgOrRad bl = true ∧ LastStates (·.chg) m.atoms (blockEntries .chg bl) ∧
        LastStates (·.rad) m.atoms (blockEntries .rad bl))
  /-- isotopes (a `D` / `T` atom has mass 0 in `m`, `Mol.Ok.dt`: its symbol carries the mass, so no entry, or a
  last entry 0, names it) -/
  iso : LastStates (·.mass) m.atoms (blockEntries .mass bl)
  bond : ∀ j (h : j < m.bonds.length) (h2 : j < bonds.length),
    bonds[j].a = (m.bonds[j].a : Int) + 1 ∧ bonds[j].b = (m.bonds[j].b : Int) + 1 ∧ bonds[j].t = m.bonds[j].t

theorem LastStates.nonZero_lastAssigned {f : MAtom → Int} {atoms : List MAtom} {key : PropKey} {bl : List BlockLine}
    (h : LastStates f atoms (blockEntries key bl)) (i : Nat) (hi : i < atoms.length) :
    nonZero (lastAssigned (allAssignments bl) key (i : Int)) = nzI (f atoms[i]) := by
  have h' := h i hi
  rw [Agree.lastAssigned_eq]
  split at h'
  · next hg => rw [hg, h']; rfl
  · next e hg => rw [hg, Option.map_some, Agree.nonZero_some, h']

theorem LastStates.of_perm {f : MAtom → Int} {atoms : List MAtom} {es : List (Int × Int)}
    (hp : es.Perm (entriesOf f atoms)) : LastStates f atoms es := by
  intro i hi
  split
  · next hg =>
    rw [List.getLast?_eq_none_iff, List.filter_eq_nil_iff] at hg
    refine Decidable.by_contra fun hz => hg _ (hp.mem_iff.2 (Agree.mem_entriesOf.2 ⟨i, hi, hz, rfl⟩)) ?_
    simp
  · next e hg =>
    have he := List.mem_filter.1 (List.mem_of_getLast? hg)
    obtain ⟨j, hj, -, rfl⟩ := Agree.mem_entriesOf.1 (hp.mem_iff.1 he.1)
    obtain rfl : j = i := Int.ofNat.inj (beq_iff_eq.1 he.2)
    rfl

theorem V2States.toRep {m : Mol} {atoms : List V2Atom} {bonds : List V2Bond} {bl : List BlockLine}
    (h : V2States m atoms bonds bl) : V2StatesRep m atoms bonds bl := by
  obtain ⟨h1, h2, h3, h4, h5, h6⟩ := h
  exact ⟨h1, h2, h3, h4.imp_right fun ⟨hf, hc, hr⟩ => ⟨hf, .of_perm hc, .of_perm hr⟩, .of_perm h5, h6⟩

/-- the reset of the charge codes (if there is an `M  CHG` / `M  RAD` line) moved into the two fields it concerns: a
record under an `if` has to be taken apart in every field -/
theorem applyBlock_eq (bl : List BlockLine) (atoms : List (Int × Atom)) :
    applyBlock bl atoms = atoms.map fun (k, a) => (k, { a with
      chg := nonZero (lastAssigned (allAssignments bl) .chg k) <|> if hasChgOrRad bl then none else a.chg
      rad := nonZero (lastAssigned (allAssignments bl) .rad k) <|> if hasChgOrRad bl then none else a.rad
      mass := nonZero (lastAssigned (allAssignments bl) .mass k) <|> a.mass }) := by
  unfold applyBlock
  cases hasChgOrRad bl
  · rfl
  · rfl

theorem MAtom.record_of_v2Atom {a : V2Atom} {ma : MAtom} (hs : a.sym = ma.sym) (ha : a.Ok)
    (hdt : (detectHydrogenIsotopes ma.sym).2 ≠ 0 → ma.mass = 0) :
    ma.record (v2Coord a.fx, v2Coord a.fy, v2Coord a.fz) =
      { a.record with chg := nzI ma.chg, rad := nzI ma.rad, mass := (nzI ma.mass).or a.record.mass } := by
  have hz := ha.z
  rw [hs] at hz
  simp only [V2Atom.record, MAtom.record, hs, hz]
  -- the mass of a `D` / `T` atom is 0 in `ma`, so the symbol's stays
  split
  · rw [Option.or_none]
  · next hd => rw [hdt hd]; rfl

theorem V2StatesRep.coords_length {m : Mol} {atoms : List V2Atom} {bonds : List V2Bond} {bl : List BlockLine}
    (h : V2StatesRep m atoms bonds bl) : (v2Coords atoms).length = m.atoms.length :=
  (List.length_map _).trans h.nAtoms

/-- **the atom lines with the property block applied, and the bond lines, of a V2000 table stating `m` are, in order,
the entries of the molecule's dictionaries**, atom `i` under the key `i` -/
theorem V2StatesRep.entries {m : Mol} {atoms : List V2Atom} {bonds : List V2Bond} {bl : List BlockLine}
    (h : V2StatesRep m atoms bonds bl) (hm : m.Ok) (hok : ∀ a ∈ atoms, a.Ok) :
    applyBlock bl (atoms.zipIdx.map fun (a, i) => ((i : Int), a.record)) =
        m.atomsAt (fun i => (i : Int)) (v2Coords atoms) ∧
      bonds.map (fun b => ((b.a - 1, b.b - 1), ({ btype := some b.t } : Bond))) = m.bondsAt fun i => (i : Int) := by
  obtain ⟨hn, hnB, hsym, hcr, hiso, hbond⟩ := h
  constructor
  · rw [applyBlock_eq, List.map_map, Mol.atomsAt]
    refine List.map_eq_map_of_getElem (by simp [v2Coords, hn]) fun i h1 h2 => ?_
    have hi : i < atoms.length := List.length_zipIdx (l := atoms) ▸ h1
    have hi' : i < m.atoms.length := hn ▸ hi
    simp only [Function.comp, List.getElem_zipIdx, List.getElem_zip, List.getElem_map, Nat.zero_add, v2Coords,
      Option.orElse_eq_orElse, Option.orElse_eq_or, hiso.nonZero_lastAssigned i hi',
      MAtom.record_of_v2Atom (hsym i hi' hi) (hok _ (List.getElem_mem hi)) (hm.dt _ (List.getElem_mem hi'))]
    -- the charge and the radical are left
    rcases hcr with ⟨hf, hcode⟩ | ⟨hf, hpc, hpr⟩
    · -- no `M  CHG` / `M  RAD` line: nothing is looked up, the charge code counts
      simp only [Agree.lastAssigned_eq, Agree.blockEntries_of_no_chgRad hf .chg nofun,
        Agree.blockEntries_of_no_chgRad hf .rad nofun, hf, V2Atom.record, hcode i hi' hi]
      rfl
    · simp only [hpc.nonZero_lastAssigned i hi', hpr.nonZero_lastAssigned i hi', hf, if_true,
        Option.or_none]
  · refine List.map_eq_map_of_getElem hnB fun j hj hj' => ?_
    obtain ⟨b1, b2, b3⟩ := hbond j hj' hj
    rw [b1, b2, b3, Int.add_sub_cancel, Int.add_sub_cancel]

/-- what TUCAN identifies an atom by: the element (D/T read as hydrogen), the isotope mass, the radical -/
def MAtom.identity (a : MAtom) : Str × Option Int × Option Int :=
  ((detectHydrogenIsotopes a.sym).1,
   (if (detectHydrogenIsotopes a.sym).2 = 0 then nzI a.mass else some (detectHydrogenIsotopes a.sym).2),
   nzI a.rad)

/-- two molecules on the same atom positions that differ at most in charges, in bond types, in the order and
orientation in which bonds are listed, and in how an isotope of hydrogen is written (`D` vs `H` with mass 2) -/
structure SameIdentity (m m' : Mol) : Prop where
  n : m.atoms.length = m'.atoms.length
  atom : ∀ i (h : i < m.atoms.length) (h' : i < m'.atoms.length), m.atoms[i].identity = m'.atoms[i].identity
  bonds : ∀ i j : Nat, (∃ b ∈ m.bonds, (b.a = i ∧ b.b = j) ∨ (b.a = j ∧ b.b = i)) ↔
    (∃ b ∈ m'.bonds, (b.a = i ∧ b.b = j) ∨ (b.a = j ∧ b.b = i))

theorem sameIdentity_refl (m : Mol) : SameIdentity m m := ⟨rfl, fun _ _ _ => rfl, fun _ _ => Iff.rfl⟩

/-- `g` is the graph of molecule `m` (coordinates spelled `c`): node `i` is atom `i` with the invariant code
added, `i` and `j` are adjacent exactly when `m` has a bond between them -/
structure IsGraphOf (g : Graph) (m : Mol) (c : List (Str × Str × Str)) : Prop where
  labels : g.labels = List.range m.atoms.length
  wf : g.WF
  simple : g.Simple
  attrs : ∀ i (h : i < m.atoms.length) (h' : i < c.length), g.attrs? i = some (GFM.inv' (m.atoms[i].record c[i]))
  adj : ∀ i j, j ∈ g.nbrs i ↔ ∃ b ∈ m.bonds, (b.a = i ∧ b.b = j) ∨ (b.a = j ∧ b.b = i)

theorem MAtom.record_z (a : MAtom) (c : Str × Str × Str) (h : a.sym ∈ elementSyms ∨ a.sym = ['D'] ∨ a.sym = ['T']) :
    (a.record c).z.isSome := by
  obtain ⟨z, hz, -⟩ := atomicNumberOf_elementSyms _ (LineM.detect_fst_mem h)
  simp [MAtom.record, hz]

theorem MAtom.record_chem (a : MAtom) (c : Str × Str × Str) (h : a.sym ∈ elementSyms ∨ a.sym = ['D'] ∨ a.sym = ['T']) :
    (GFM.inv' (a.record c)).Chem := by
  obtain ⟨z, hez, -⟩ := elementZ_elementSyms (LineM.detect_fst_mem h)
  have hz := atomicNumberOf_of_elementZ hez
  have hnz : ∀ v, nzI v ≠ some 0 := fun v h0 => (Agree.nzI_some h0).2 (Agree.nzI_some h0).1
  refine ⟨(z : Int), ?_, ?_, ?_, ?_, hnz _⟩
  · simp [GFM.inv', MAtom.record, hz]
  · rw [symOfZ_of_elementZ hez]; rfl
  · simp [GFM.inv', MAtom.record, hz]
  · show (if (detectHydrogenIsotopes a.sym).2 = 0 then _ else _) ≠ some 0
    split
    · exact hnz _
    · next h0 => exact fun h1 => h0 (Option.some.inj h1)

theorem MAtom.record_sameIdent {a a' : MAtom} {c c' : Str × Str × Str} (h : a.identity = a'.identity) :
    SameIdent (GFM.inv' (a.record c)) (GFM.inv' (a'.record c')) := by
  simp only [MAtom.identity, Prod.mk.injEq] at h
  obtain ⟨h1, h2, h3⟩ := h
  simp only [SameIdent, GFM.inv', MAtom.record, h1, h2, h3, and_self]

/-- **the graph does not see the keys**: the dictionaries of `m` under any pairwise distinct keys are turned by
`graph_from_molecule` into a graph of `m` -/
theorem Mol.graph_of_dicts {m : Mol} (hm : m.Ok) {κ : Nat → Int} {c : List (Str × Str × Str)}
    (hc : c.length = m.atoms.length) (hκ : m.Keyed κ) :
    ∃ g post, graphFromMolecule (m.atomsAt κ c) (m.bondsAt κ) = .ok (g, post) ∧ IsGraphOf g m c := by
  have hlen := Mol.atomsAt_length (κ := κ) hc
  obtain ⟨hnd, hkey⟩ := keyPos_of_keys (Mol.atomsAt_keys hc) hκ
  have hpos : ∀ {i}, i < m.atoms.length → keyPos (m.atomsAt κ c) (κ i) = some i := fun hi => hkey.2 ⟨hi, rfl⟩
  obtain ⟨g, post, hg, hlab, hwf, hsimp, hattr, hadj⟩ :=
    graphFromMolecule_of_consistent (m.atomsAt κ c) (m.bondsAt κ) hnd
      (fun p hp => by
        obtain ⟨b, hb, rfl⟩ := List.mem_map.1 hp
        obtain ⟨h1, h2, h3⟩ := hm.bonds b hb
        exact ⟨by rw [hpos h1]; rfl, by rw [hpos h2]; rfl, fun he => h3 (hκ _ h1 _ h2 he)⟩)
      (fun p hp p' hp' hj => by
        obtain ⟨b, hb, rfl⟩ := List.mem_map.1 hp
        obtain ⟨b', hb', rfl⟩ := List.mem_map.1 hp'
        rw [hm.bond_unique hκ hb hb' hj])
      (List.forall_mem_map.2 fun ⟨⟨a, co⟩, i⟩ hp =>
        a.record_z co (hm.sym a (List.of_mem_zip (List.fst_mem_of_mem_zipIdx hp)).1))
  have hbond : ∀ {i j d}, i < m.atoms.length → j < m.atoms.length → ((κ i, κ j), d) ∈ m.bondsAt κ →
      ∃ b ∈ m.bonds, b.a = i ∧ b.b = j := fun hi hj h => by
    obtain ⟨b, hb, he⟩ := List.mem_map.1 h
    obtain ⟨h1, h2, -⟩ := hm.bonds b hb
    simp only [Prod.mk.injEq] at he
    exact ⟨b, hb, hκ _ h1 _ hi he.1.1, hκ _ h2 _ hj he.1.2⟩
  refine ⟨g, post, hg, by rw [hlab, hlen], hwf, hsimp, fun i hi hi' => ?_, fun i j => ?_⟩
  · rw [hattr i (hlen ▸ hi), Mol.atomsAt_getElem _ hi hi']
  · refine NxE.adj_iff.trans ⟨?_, ?_⟩
    · rintro ⟨d, hd⟩
      obtain ⟨k, l, hk, hl, h⟩ := (hadj i j d).1 hd
      obtain ⟨hi, rfl⟩ := hkey.1 hk
      obtain ⟨hj, rfl⟩ := hkey.1 hl
      rcases h with h | h
      · obtain ⟨b, hb, e⟩ := hbond hi hj h
        exact ⟨b, hb, Or.inl e⟩
      · obtain ⟨b, hb, e⟩ := hbond hj hi h
        exact ⟨b, hb, Or.inr e⟩
    · rintro ⟨b, hb, ⟨rfl, rfl⟩ | ⟨rfl, rfl⟩⟩
      · obtain ⟨h1, h2, -⟩ := hm.bonds b hb
        exact ⟨_, (hadj _ _ _).2 ⟨_, _, hpos h1, hpos h2, Or.inl (List.mem_map_of_mem hb)⟩⟩
      · obtain ⟨h1, h2, -⟩ := hm.bonds b hb
        exact ⟨_, (hadj _ _ _).2 ⟨_, _, hpos h2, hpos h1, Or.inr (List.mem_map_of_mem hb)⟩⟩

theorem Mol.graph_of_mol {m : Mol} (hm : m.Ok) {c : List (Str × Str × Str)} (hc : c.length = m.atoms.length) :
    ∃ g post, graphFromMolecule (m.atomDict c) m.bondDict = .ok (g, post) ∧ IsGraphOf g m c := by
  rw [Mol.atomDict_eq, Mol.bondDict_eq hm]
  exact Mol.graph_of_dicts hm hc m.keyed_cast

/-- the graph `graph_from_molecule` builds from the molecule's own dictionaries is a graph of it -/
theorem isGraphOf_of_dicts (m : Mol) (hm : m.Ok) (c : List (Str × Str × Str)) (hc : c.length = m.atoms.length)
    (g : Graph) (post : List (Int × Atom)) (h : graphFromMolecule (m.atomDict c) m.bondDict = .ok (g, post)) :
    IsGraphOf g m c := by
  obtain ⟨g0, p0, h0, hG⟩ := Mol.graph_of_mol hm hc
  cases h.symm.trans h0
  exact hG

theorem IsGraphOf.numberOfNodes {g : Graph} {m : Mol} {c : List (Str × Str × Str)} (hg : IsGraphOf g m c) :
    g.numberOfNodes = m.atoms.length := by
  rw [← g.length_labels, hg.labels, List.length_range]

theorem IsGraphOf.mem_labels {g : Graph} {m : Mol} {c : List (Str × Str × Str)} (hg : IsGraphOf g m c) {a : Nat} :
    a ∈ g.labels ↔ a < m.atoms.length := by
  rw [hg.labels, List.mem_range]

theorem IsGraphOf.attr_of_mem {g : Graph} {m : Mol} {c : List (Str × Str × Str)} (hg : IsGraphOf g m c)
    (hc : c.length = m.atoms.length) {a : Nat} {x : Atom} (ha : a ∈ g.labels) (hx : g.attrs? a = some x) :
    ∃ ma ∈ m.atoms, ∃ co, x = GFM.inv' (ma.record co) := by
  rw [hg.mem_labels] at ha
  rw [hg.attrs a ha (hc ▸ ha)] at hx
  exact ⟨_, List.getElem_mem ha, _, (Option.some.inj hx).symm⟩

theorem IsGraphOf.chem {g : Graph} {m : Mol} {c : List (Str × Str × Str)} (hg : IsGraphOf g m c) (hm : m.Ok)
    (hc : c.length = m.atoms.length) : g.Chem := by
  intro a ha x hx
  obtain ⟨ma, hma, co, rfl⟩ := hg.attr_of_mem hc ha hx
  exact ma.record_chem co (hm.sym ma hma)

end Tucan
