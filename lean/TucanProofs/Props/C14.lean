import TucanProofs.Lemmas.Basics.Order
import TucanProofs.Lemmas.SerializeCongr
import TucanProofs.Lemmas.Pipeline
/-!
# C14 — determinism across processes, call histories and threads  (PARTIAL)

What a theorem can carry:
* (a) *order-obliviousness*: every set- or dict-derived sequence the modelled code reads is sorted first,
  and sorting is a function of the multiset — so the result cannot depend on hash-seed dependent
  iteration order (`C14_sorted_sequences_order_oblivious`, and at the level of whole operations
  `C14_serialize_listing_oblivious`);
* (b) *history independence*: model operations are functions of their arguments (Lean functions); the
  only write to an argument is the scratch flag reset (C12);
* (c) an abstract model of a shared lazily-filled cache (the ANTLR prediction cache): under every
  interleaving of reads, publishes and aborted computations, every stored entry and every returned value
  equals `f k`.
What it cannot exhibit — CPython's thread switching inside the ANTLR runtime, networkx and igraph — is
sampled by the harness (subprocesses under several PYTHONHASHSEED values and call orders, 8 threads).
-/
namespace Tucan

/-- (a) all the sorts the pipeline uses depend only on the multiset of their input -/
theorem C14_sorted_sequences_order_oblivious :
    (∀ l₁ l₂ : List Nat, l₁.Perm l₂ → sortN l₁ = sortN l₂) ∧
    (∀ l₁ l₂ : List Key, l₁.Perm l₂ → sortKDesc l₁ = sortKDesc l₂) ∧
    (∀ l₁ l₂ : List Seq, l₁.Perm l₂ → sortS l₁ = sortS l₂) ∧
    (∀ l₁ l₂ : List (Seq × Nat), l₁.Perm l₂ → l₁.mergeSort leSN = l₂.mergeSort leSN) ∧
    (∀ l₁ l₂ : List (Nat × Nat), l₁.Perm l₂ → l₁.mergeSort leNN = l₂.mergeSort leNN) :=
  ⟨fun _ _ h => sortN_perm_eq h, fun _ _ h => sortKDesc_perm_eq h, fun _ _ h => sortS_perm_eq h,
   fun _ _ h => sortSN_perm_eq h, fun _ _ h => sortNN_perm_eq h⟩

/-- (a) at the level of an operation: the serializer's result does not depend on the order in which
nodes and neighbours are iterated -/
theorem C14_serialize_listing_oblivious (c c' : Graph) (hw : c.WF) (hs : c.Simple) (hw' : c'.WF) (hs' : c'.Simple)
    (same : Iso SameIdentPart id c c') (s s' : Str) (p p' : Graph)
    (h : serializeMolecule c = .ok (s, p)) (h' : serializeMolecule c' = .ok (s', p')) : s = s' :=
  serialize_congr c c' hw hs hw' hs' same s s' p p' h h'

/-- (a) … and so does the canonical graph, and with it the whole pipeline: for one molecule whose nodes, neighbours
and bonds are iterated in another order (the same labels — what a different hash seed or insertion history can
change), canonicalization returns the same labelled graph and the pipeline the same string, for every oracle
meeting the bliss contract -/
theorem C14_pipeline_listing_oblivious (O : CanonOracle) (g g' : Graph) (hchem : g.Chem)
    (hw : g.WF) (hs : g.Simple) (hw' : g'.WF) (hs' : g'.Simple) (same : Iso SameIdent id g g') :
    (∀ c c' r r' k k', canonicalizeWith g O.order = .ok (c, r, k) → canonicalizeWith g' O.order = .ok (c', r', k') →
      Iso SameIdentPart id c c' ∧ k = k') ∧
    (∀ s s', tucanOf O.order g = .ok s → tucanOf O.order g' = .ok s' → s = s') := by
  refine ⟨?_, fun s s' h h' => tucan_invariant O same hchem hw hs hw' hs' h h'⟩
  intro c c' r r' k k' h h'
  exact ⟨(canonical_graph_invariant O same hchem hw hs hw' hs' h h').1,
    (refined_equivariant same hw hs hw' hs' h h').1⟩

/-! ### (c) a lazily filled shared cache -/

section Cache
variable {κ ν : Type} [DecidableEq κ] (f : κ → ν)

/-- an atomic step of some thread: look a key up, publish a computed entry, or abort a computation
(an exception while the entry was being computed leaves the cache as it is) -/
inductive CacheStep (κ : Type)
  | read (thread : Nat) (k : κ)
  | publish (thread : Nat) (k : κ)
  | abort (thread : Nat)

/-- the shared table, and the log of every value handed to a caller -/
structure CacheState (κ ν : Type) where
  table : κ → Option ν
  returned : List (Nat × κ × ν)      -- (thread, key, value handed to the caller)

def cacheStep (s : CacheState κ ν) : CacheStep κ → CacheState κ ν
  | .read t k =>
    match s.table k with
    | some v => { s with returned := (t, k, v) :: s.returned }   -- hit
    | none => s                                                   -- miss: the thread goes on to compute
  | .publish t k =>
    { table := fun k' => if k' = k then some (f k) else s.table k',
      returned := (t, k, f k) :: s.returned }
  | .abort _ => s

/-- every stored entry and every value handed out is the value of `f` -/
def CacheInv (s : CacheState κ ν) : Prop :=
  (∀ k v, s.table k = some v → v = f k) ∧ (∀ r ∈ s.returned, r.2.2 = f r.2.1)

/-- one step preserves the invariant (helper of `C14_cache_any_interleaving`) -/
theorem cacheStep_inv (s : CacheState κ ν) (a : CacheStep κ) (h : CacheInv f s) : CacheInv f (cacheStep f s a) := by
  obtain ⟨h1, h2⟩ := h
  cases a with
  | read t k =>
    simp only [cacheStep]
    cases hk : s.table k with
    | none => exact ⟨h1, h2⟩
    | some v => exact ⟨h1, List.forall_mem_cons.2 ⟨h1 k v hk, h2⟩⟩
  | publish t k =>
    refine ⟨fun k' v hv => ?_, List.forall_mem_cons.2 ⟨rfl, h2⟩⟩
    simp only [cacheStep] at hv
    split at hv
    · next e => rw [e, Option.some.inj hv]
    · exact h1 k' v hv
  | abort t => exact ⟨h1, h2⟩

/-- **Every interleaving, every history — of this toy model.**  `CacheStep` / `cacheStep` are defined in this file
and are not derived from the ANTLR runtime's cache: `publish` stores `f k` by construction, so the invariant holds
by design; the theorem only records that atomic publication of correct entries cannot be broken by interleaving,
abort or repetition.  That the real cache publishes atomically and correctly is what the harness probes (threads,
processes, histories), not what is proved.  Starting from any cache whose entries are correct (in
particular the empty one, or one left partly filled by earlier — possibly failed — calls), after any
sequence of atomic steps of any number of threads every entry is still correct and every value ever
handed to a caller equals `f k`. -/
theorem C14_cache_any_interleaving (s : CacheState κ ν) (steps : List (CacheStep κ)) (h : CacheInv f s) :
    CacheInv f (steps.foldl (cacheStep f) s) := by
  induction steps generalizing s with
  | nil => exact h
  | cons a as ih => exact ih _ (cacheStep_inv f s a h)

/-- the empty cache satisfies the invariant (non-vacuity) -/
example : CacheInv f (⟨fun _ => none, []⟩ : CacheState κ ν) := ⟨by simp, by simp⟩

end Cache
end Tucan
