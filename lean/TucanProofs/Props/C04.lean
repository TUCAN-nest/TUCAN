import TucanProofs.Lemmas.Pipeline
import TucanProofs.Lemmas.FilesPerm
import TucanProofs.Lemmas.MoreExamples
import TucanProofs.Lemmas.Canonical
import TucanProofs.Examples
/-!
# C04 — canonical atom numbering: the same molecule gives the same labelled graph
-/
namespace Tucan

/-- **C04.**  Canonicalizing two descriptions of the same molecule yields the same labelled graph: the
atoms are numbered `0 … n-1`; atom `k` has the same element, isotope mass, radical state and partition
class in both results (`Iso SameIdentPart id`: `attrs`), and atoms `j`, `k` are bonded in one result
exactly when they are bonded in the other (`nbrs`).  Charges, coordinates and bond records are not
constrained (they may sit on different but symmetry-equivalent atoms). -/
theorem C04_canonical_graph (O : CanonOracle) (f : Nat → Nat) (g g' c c' r r' : Graph) (k k' : Nat)
    (iso : Iso SameIdent f g g') (hchem : g.Chem)
    (hw : g.WF) (hs : g.Simple) (hw' : g'.WF) (hs' : g'.Simple)
    (h : canonicalizeWith g O.order = .ok (c, r, k)) (h' : canonicalizeWith g' O.order = .ok (c', r', k')) :
    Iso SameIdentPart id c c' ∧ c.labels.Perm (List.range g.numberOfNodes) ∧
    c'.labels.Perm (List.range g.numberOfNodes) := by
  obtain ⟨isoC, hl, _, _, _, _⟩ := canonical_graph_invariant O iso hchem hw hs hw' hs' h h'
  exact ⟨isoC, hl, isoC.perm_labels.symm.trans hl⟩

/-- spelled out: equal node → (element, mass, radical, class) maps and equal edge sets -/
theorem C04_nodes_and_edges (O : CanonOracle) (f : Nat → Nat) (g g' c c' r r' : Graph) (k k' : Nat)
    (iso : Iso SameIdent f g g') (hchem : g.Chem)
    (hw : g.WF) (hs : g.Simple) (hw' : g'.WF) (hs' : g'.Simple)
    (h : canonicalizeWith g O.order = .ok (c, r, k)) (h' : canonicalizeWith g' O.order = .ok (c', r', k')) :
    (∀ i < g.numberOfNodes, ∃ x y, c.attrs? i = some x ∧ c'.attrs? i = some y ∧
        x.z = y.z ∧ x.sym = y.sym ∧ x.mass = y.mass ∧ x.rad = y.rad ∧ x.part = y.part) ∧
    (∀ i j, i < g.numberOfNodes → j < g.numberOfNodes → (c.Adj i j ↔ c'.Adj i j)) := by
  obtain ⟨isoC, hl, cw, _, _, _⟩ := canonical_graph_invariant O iso hchem hw hs hw' hs' h h'
  have hmem : ∀ i, i < g.numberOfNodes → i ∈ c.labels := fun i hi => hl.mem_iff.mpr (List.mem_range.2 hi)
  refine ⟨?_, ?_⟩
  · intro i hi
    obtain ⟨x, y, hx, hy, hxy⟩ := isoC.attrs i (hmem i hi)
    exact ⟨x, y, hx, hy, hxy.ident.z, hxy.ident.sym, hxy.ident.mass, hxy.ident.rad, hxy.part⟩
  · intro i j hi hj
    exact (isoC.adj_iff cw (hmem i hi) (hmem j hj)).symm

/-- **The partition class is there**: every label `i` of the canonical graph is the renamed copy of an input atom and
carries that atom's class from the refinement — so the equality of classes in `C04_nodes_and_edges` is an equality of
classes that are set, not of two absent values. -/
theorem C04_classes_set (order : Graph → List Nat)
    (hperm : ∀ r : Graph, r.WF → (order r).Perm r.labels)
    (g c r : Graph) (k : Nat) (hw : g.WF) (hs : g.Simple)
    (h : canonicalizeWith g order = .ok (c, r, k)) :
    ∀ i ∈ c.labels, ∃ a ∈ g.labels, ∃ q : Int, partOf? r a = some q ∧ partOf? c i = some q := by
  obtain ⟨σ, hσ⟩ := canonicalize_renames hperm hw hs h
  intro i hi
  obtain ⟨a, ha, rfl⟩ := hσ.exists_of_mem hi
  exact ⟨a, ha, hσ.part ha⟩

/-- the contract the theorems of this file quantify over is satisfiable -/
theorem C04_oracle_contract_inhabited : Nonempty CanonOracle := CanonOracle.nonempty

/-- non-vacuity of the graph hypotheses; two descriptions `Iso SameIdent exRename exGraph exGraphR` with `exGraph.Chem`
are exhibited in C01.lean -/
example : exGraph.WF ∧ exGraph.Simple := ⟨exGraph_wf, exGraph_simple⟩

/-- **C04 for graphs of molecules.**  `g`, `g'` are graphs of molecules `m`, `m'` (`IsGraphOf`: what either reader
returns for a file stating the molecule); `m'` is `m` with its atoms listed in another order (`σ`, inverse `τ`), its
bonds renumbered accordingly and listed in any order and orientation (`SameMolecule`).  Then canonicalizing both gives
the same labelled graph: labels `0 … n-1`, label `i` with the same element, mass, radical and partition class in
both, labels `i`, `j` bonded in one exactly when they are bonded in the other. -/
theorem C04_graphs_of_same_molecule (O : CanonOracle) (σ τ : Nat → Nat) (m m' : Mol) (hm : m.Ok) (hm' : m'.Ok)
    (same : SameMolecule σ τ m m') (cs cs' : List (Str × Str × Str))
    (hc : cs.length = m.atoms.length) (hc' : cs'.length = m'.atoms.length)
    (g g' : Graph) (hg : IsGraphOf g m cs) (hg' : IsGraphOf g' m' cs') (c c' r r' : Graph) (k k' : Nat)
    (h : canonicalizeWith g O.order = .ok (c, r, k)) (h' : canonicalizeWith g' O.order = .ok (c', r', k')) :
    (∀ i < m.atoms.length, ∃ x y, c.attrs? i = some x ∧ c'.attrs? i = some y ∧
        x.z = y.z ∧ x.sym = y.sym ∧ x.mass = y.mass ∧ x.rad = y.rad ∧ x.part = y.part) ∧
    (∀ i j, i < m.atoms.length → j < m.atoms.length → (c.Adj i j ↔ c'.Adj i j)) := by
  have _ := hm'
  have := C04_nodes_and_edges O σ g g' c c' r r' k k' (isGraphOf_iso_perm same hc hc' hg hg')
    (hg.chem hm hc) hg.wf hg.simple hg'.wf hg'.simple h h'
  rwa [hg.numberOfNodes] at this

/-- non-vacuity of the statement about graphs of molecules: `FilesExample.mol` and the same molecule listed in reverse order -/
example : MoreExamples.molRev.Ok ∧ SameMolecule MoreExamples.rev MoreExamples.rev FilesExample.mol MoreExamples.molRev :=
  ⟨MoreExamples.molRev_ok, MoreExamples.sameMolecule_rev⟩

end Tucan
