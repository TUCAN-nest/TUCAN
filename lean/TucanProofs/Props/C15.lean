import TucanProofs.Lemmas.Pipeline
import TucanProofs.Lemmas.RoundTrip
import TucanProofs.Examples
import TucanProofs.Lemmas.Files
import TucanProofs.Lemmas.FilesMol
import TucanProofs.Lemmas.LayoutString
/-!
# C15 — the pipeline completes for every non-empty molecule regardless of size or shape  (PARTIAL)

About the model, for graphs of every size and shape (no bound on atoms, components, degree or
refinement depth): the pipeline returns a string — no `RecursionError`-like fuel exhaustion, no
`AssertionError`, `IndexError`, `KeyError` or `ValueError` result is reachable.  The refinement is a loop
that provably stops within `n` rounds (`n` atoms; the model's fuel is `n + 1`); the BFS relabelling is defined by well-founded recursion, never pops an empty list and meets its assertion.
What no theorem exhibits: Python's actual stack depth, memory, bliss's running time and the ANTLR
runtime's own recursion — the harness runs the real pipeline on depth-linear families in the thousands.
-/
namespace Tucan

/-- **The pipeline returns**, for every oracle that answers with a permutation of the vertices. -/
theorem C15_pipeline_total (order : Graph → List Nat) (hperm : ∀ r : Graph, r.WF → (order r).Perm r.labels)
    (g : Graph) (hw : g.WF) (hs : g.Simple) (hne : g.labels ≠ [])
    (hattrs : ∀ a ∈ g.labels, ∃ x, g.attrs? a = some x ∧ x.z.isSome ∧ x.inv.isSome) :
    ∃ s, tucanOf order g = .ok s :=
  pipeline_total order hperm g hw hs hne hattrs

/-- **… and parsing that string returns too**: the parser accepts the pipeline's output for every molecule
in the domain the readers and the parser produce. -/
theorem C15_parse_of_output_total (order : Graph → List Nat) (hperm : ∀ r : Graph, r.WF → (order r).Perm r.labels)
    (g : Graph) (hw : g.WF) (hs : g.Simple) (hmol : g.MolAtoms)
    (hsize : (natRepr (g.numberOfNodes + 1)).length ≤ intMaxStrDigits)
    (s : Str) (h : tucanOf order g = .ok s) : ∃ H, graphFromTucan s = .ok H :=
  let ⟨H, _, P⟩ := pipeline_parsedBack hperm hw hs hmol hsize h
  ⟨H, P.parse⟩

/-- canonicalization alone returns whatever the oracle answers -/
theorem C15_canonicalize_total (order : Graph → List Nat) (g : Graph) (hw : g.WF) (hs : g.Simple)
    (hne : g.labels ≠ [])
    (hattrs : ∀ a ∈ g.labels, ∃ x, g.attrs? a = some x ∧ x.z.isSome ∧ x.inv.isSome) :
    ∃ c r k, canonicalizeWith g order = .ok (c, r, k) :=
  canonicalize_total order hw hs hne hattrs

/-- the refinement loop needs at most `n` rounds for `n` atoms: its depth is linear in the number of atoms, and
the fuel `n + 1` the model gives it is never exhausted.  The hypothesis `Dense g` is the state the loop is entered
in: every atom carries a class and the classes are exactly `0 … k-1` — what the first partition step
(`partition_molecule_by_attribute(·, INVARIANT_CODE)`) establishes for every non-empty graph; `C15_canonicalize_total`
and `C13_rounds_bounded` are the statements without that hypothesis, for the loop as `canonicalize_molecule` runs it. -/
theorem C15_refinement_terminates (g : Graph) (hw : g.WF) (hs : g.Simple) (hd : Dense g) (hne : g.labels ≠ []) :
    ∃ r n, refinePartitions g = .ok (r, n) ∧ n ≤ g.numberOfNodes :=
  refinePartitions_ok copySpec mapAttrsSpec g hw hs hd hne

/-- the cosmetic relabelling: no `IndexError` (empty `pop`), no `KeyError`, the `assert` holds, and the
labels are assigned bijectively -/
theorem C15_final_labels_total (v : View) (h : v.WF) :
    ∃ fl, finalLabels v = .ok fl ∧ (fl.map (·.1)).Perm v.nodes ∧ (fl.map (·.2)).Perm v.nodes :=
  let ⟨fl, h1, h2, h3, _⟩ := finalLabels_ok v h
  ⟨fl, h1, h2, h3⟩

/-- non-vacuity: the hypotheses are met by a concrete molecule -/
example : exGraph.WF ∧ exGraph.Simple ∧ exGraph.labels ≠ [] ∧
    (∀ a ∈ exGraph.labels, ∃ x, exGraph.attrs? a = some x ∧ x.z.isSome ∧ x.inv.isSome) :=
  ⟨exGraph_wf, exGraph_simple, by decide, by decide⟩

/-- **Every graph of a conformant molecule with at least one atom gets a string**: the model pipeline returns on a
graph `g` of a molecule `m` a molfile can state within the CTfile specification (`IsGraphOf g m c`: what either
reader returns for a file stating `m` — `C06_v3000_file_any_indices`, `C06_readsAs_graph_of`; the statement with
the file's text inside is `C15_v3000_text_to_string`), for every oracle that returns permutations.  The molecule
domain (`Mol.Ok`) has no star atoms, no bond stated twice and no `D`/`T` with an explicit mass. -/
theorem C15_molfile_pipeline_total (order : Graph → List Nat) (hperm : ∀ r : Graph, r.WF → (order r).Perm r.labels)
    (g : Graph) (m : Mol) (c : List (Str × Str × Str)) (hc : c.length = m.atoms.length)
    (hm : m.Conformant) (hne : m.atoms ≠ []) (hg : IsGraphOf g m c) : ∃ s, tucanOf order g = .ok s :=
  isGraphOf_pipeline_total order hperm hc hm.ok hne hg

/-- **From the text of a conformant V3000 file to its string, end to end.**  A text that consists of lines with
one of the three terminators (`IsTextOf`), whose lines are a V3000 connection table (`IsV3000File`: header, counts
line, atom block with any pairwise distinct indices in any order, bond block, `M  END`, anything after it) that
states a conformant molecule `m` with at least one atom (`V3StatesIdx`): the reader returns a graph, the pipeline
returns a string on it, that string is a sentence of the grammar in canonical layout, and parsing it gives the
graph back up to a renaming of its atoms. -/
theorem C15_v3000_text_to_string (O : CanonOracle) (m : Mol) (hm : m.Conformant) (hne : m.atoms ≠ [])
    (hsize : (natRepr (m.atoms.length + 1)).length ≤ intMaxStrDigits)
    (idx : List Int) (coords : List (Str × Str × Str))
    (text : Str) (lines : List Str) (atoms : List AtomEntry) (bonds : List BondEntry)
    (ht : IsTextOf text lines) (f : IsV3000File lines atoms bonds)
    (hver : ∀ l3, lines[3]? = some l3 → EndsInWord l3 (cs "V3000"))
    (h : V3StatesIdx m idx coords atoms bonds) :
    ∃ g s, graphFromMolfileText text = .ok g ∧ tucanOf O.order g = .ok s ∧
      (∃ toks ast, lex s = some toks ∧ Sentence toks ast ∧ ast.Canonical) ∧
      (∃ H τ, graphFromTucan s = .ok H ∧ Iso SameIdent τ g H) := by
  obtain ⟨g, hread, hg⟩ := v3000_text_reads_graph_of hm.ok ht f hver h
  have hc := h.nAtoms.2
  obtain ⟨s, hs⟩ := isGraphOf_pipeline_total O.order O.perm hc hm.ok hne hg
  obtain ⟨gw, gs, hmol, hsz⟩ := hg.roundtrip_domain hm hc hsize
  obtain ⟨H, τ, P⟩ := pipeline_parsedBack O.perm gw gs hmol hsz hs
  exact ⟨g, s, hread, hs, emitted_layout O.order O.perm g gw gs hmol s hs, H, τ, P.parse, P.iso⟩

end Tucan
