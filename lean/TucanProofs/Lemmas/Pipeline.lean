import TucanProofs.Lemmas.Canonical
import TucanProofs.Lemmas.Refine
import TucanProofs.Lemmas.SerializeCongr
/-!
# The pipeline: canonicalize, then serialize

S2/S3 (equivariance of the refinement), the bliss contract, the canonical relabelling and S4 (representation
independence of the serializer) are assembled into statements about `canonicalizeWith` and about the whole pipeline
`tucanOf`: what a run that returns has computed, that two descriptions of one molecule get the same canonical graph
and the same string, and totality (C15 at model level): no `recursion`, `assertion`, `indexError`, `keyError`,
`valueError` (or fuel exhaustion, `other`) result is reachable from a well-formed non-empty molecule graph whose atoms
carry an atomic number and an invariant code, for any oracle that returns a permutation of the vertices.
-/
namespace Tucan
open NxE EqAux

/-- `serialize_molecule(canonicalize_molecule(m))` -/
def tucanOf (order : Graph → List Nat) (g : Graph) : PyM Str := do
  let (c, _, _) ← canonicalizeWith g order
  let (s, _) ← serializeMolecule c
  pure s

theorem canonicalizeWith_eq_ok {order : Graph → List Nat} {g c r : Graph} {k : Nat} :
    canonicalizeWith g order = .ok (c, r, k) ↔
    ∃ p, partitionMoleculeByAttribute g .invariantCode = .ok p ∧ refinePartitions p = .ok (r, k) ∧
      c = r.relabelCopy (order r).zipIdx := by
  simp only [canonicalizeWith, PyM.bind_eq_ok, Prod.exists]
  constructor
  · rintro ⟨p, hp, r', k', hr, h⟩
    cases h
    exact ⟨p, hp, hr, rfl⟩
  · rintro ⟨p, hp, hr, rfl⟩
    exact ⟨p, hp, r, k, hr, rfl⟩

theorem tucanOf_eq_ok {order : Graph → List Nat} {g : Graph} {s : Str} :
    tucanOf order g = .ok s ↔
    ∃ c r k p, canonicalizeWith g order = .ok (c, r, k) ∧ serializeMolecule c = .ok (s, p) := by
  simp only [tucanOf, PyM.bind_eq_ok, Prod.exists]
  constructor
  · rintro ⟨c, r, k, hc, s', p, hs, h⟩
    cases h
    exact ⟨c, r, k, p, hc, hs⟩
  · rintro ⟨c, r, k, p, hc, hs⟩
    exact ⟨c, r, k, hc, s, p, hs, rfl⟩

/-- what `canonicalize_molecule` has computed when it returns: `r` the refined graph, `k` the number of rounds of the
loop, `c` the canonical graph -/
structure Canonicalized (order : Graph → List Nat) (g c r : Graph) (k : Nat) : Prop where
  reclassed : Reclassed g r
  dense : Dense r
  stable : Stable r
  respects : ClassesRespectIdent r
  rounds : k ≤ g.numberOfNodes
  relabelled : c = r.relabelCopy (order r).zipIdx

/-- `canonicalize_molecule` does not return on the empty graph (`max()` of no classes) -/
theorem canonicalize_nonempty {order : Graph → List Nat} {g c r : Graph} {k : Nat} (hw : g.WF) (hs : g.Simple)
    (h : canonicalizeWith g order = .ok (c, r, k)) : g.labels ≠ [] := by
  obtain ⟨p, hp, hr, _⟩ := canonicalizeWith_eq_ok.mp h
  exact (stepFacts hw hs hp).labels ▸ refineLoop_nonempty hr

theorem canonicalize_spec {order : Graph → List Nat} {g c r : Graph} {k : Nat} (hw : g.WF) (hs : g.Simple)
    (h : canonicalizeWith g order = .ok (c, r, k)) : Canonicalized order g c r k := by
  obtain ⟨p, hp, hr, hc⟩ := canonicalizeWith_eq_ok.mp h
  -- the run is the one the totality proof constructs
  obtain ⟨_, _, hr', hk, hgr, hd, he, hcri⟩ := refinePartitions_of_inv hw hs hp (canonicalize_nonempty hw hs h)
  cases hr.symm.trans hr'
  exact ⟨hgr, hd, he, hcri, hk, hc⟩

/-- **Refinement is equivariant.**  For two descriptions of one molecule the refined graphs are related
by the same renaming, with equal classes, and the number of rounds is the same. -/
theorem refined_equivariant {order order' : Graph → List Nat} {f : Nat → Nat} {g g' c c' r r' : Graph} {k k' : Nat}
    (iso : Iso SameIdent f g g') (hw : g.WF) (hs : g.Simple) (hw' : g'.WF) (hs' : g'.Simple)
    (h : canonicalizeWith g order = .ok (c, r, k)) (h' : canonicalizeWith g' order' = .ok (c', r', k')) :
    k = k' ∧ Iso SameIdentPart f r r' ∧ r.WF ∧ r.Simple ∧ r'.WF ∧ r'.Simple := by
  obtain ⟨p, hp, hr, _⟩ := canonicalizeWith_eq_ok.mp h
  obtain ⟨p', hp', hr', _⟩ := canonicalizeWith_eq_ok.mp h'
  have isoP := partition_equivariant copySpec mapAttrsSpec (fun x y h => ⟨h, by simp [Atom.key, h.inv]⟩)
    iso hw hs hw' hs' hp hp'
  have sf := stepFacts hw hs hp
  have sf' := stepFacts hw' hs' hp'
  unfold refinePartitions at hr hr'
  rw [isoP.numberOfNodes] at hr'
  obtain ⟨hk, isoR⟩ := refineLoop_equivariant isoP sf.wf sf.simple sf'.wf sf'.simple hr hr'
  have hgr := (canonicalize_spec hw hs h).reclassed
  have hgr' := (canonicalize_spec hw' hs' h').reclassed
  exact ⟨hk, isoR, hgr.wf, hgr.simple, hgr'.wf, hgr'.simple⟩

/-- the refined graph: equitable, classes determine the invariant code, attributes unchanged but `partition` -/
theorem refined_facts {order : Graph → List Nat} {g c r : Graph} {k : Nat} (hw : g.WF) (hs : g.Simple)
    (h : canonicalizeWith g order = .ok (c, r, k)) :
    Equitable r ∧ ClassesRespectIdent r ∧ r.labels = g.labels ∧ r.WF ∧ r.Simple ∧
    (∀ a ∈ g.labels, ∃ x q, g.attrs? a = some x ∧ r.attrs? a = some { x with part := q }) ∧
    k ≤ g.numberOfNodes + 1 := by
  have sp := canonicalize_spec hw hs h
  exact ⟨sp.stable.equitable, sp.respects, sp.reclassed.labels, sp.reclassed.wf, sp.reclassed.simple,
    sp.reclassed.attrs, Nat.le_succ_of_le sp.rounds⟩

/-- `c` is `g` renamed by an injective `σ` onto `0 … n-1`; every atom keeps its record, with `partition` set to the
class it has in `r`; bonds keep their records -/
structure Renames (σ : Nat → Nat) (g c r : Graph) : Prop where
  inj : ∀ a ∈ g.labels, ∀ b ∈ g.labels, σ a = σ b → a = b
  labels : c.labels = g.labels.map σ
  range : c.labels.Perm (List.range g.numberOfNodes)
  wf : c.WF
  simple : c.Simple
  nbrs : ∀ a ∈ g.labels, (c.nbrsD (σ a)).Perm ((g.nbrsD a).map fun e => (σ e.1, e.2))
  attrs : ∀ a ∈ g.labels, ∃ (x : Atom) (q : Int), g.attrs? a = some x ∧
    partOf? r a = some q ∧ partOf? c (σ a) = some q ∧ c.attrs? (σ a) = some { x with part := some q }

theorem Renames.mem {σ : Nat → Nat} {g c r : Graph} (h : Renames σ g c r) {a : Nat} (ha : a ∈ g.labels) :
    σ a ∈ c.labels :=
  h.labels ▸ List.mem_map_of_mem ha

theorem Renames.exists_of_mem {σ : Nat → Nat} {g c r : Graph} (h : Renames σ g c r) {i : Nat} (hi : i ∈ c.labels) :
    ∃ a ∈ g.labels, σ a = i :=
  List.mem_map.mp (h.labels ▸ hi)

theorem Renames.record {σ : Nat → Nat} {g c r : Graph} (h : Renames σ g c r) {a : Nat} (ha : a ∈ g.labels) :
    ∃ x p, g.attrs? a = some x ∧ c.attrs? (σ a) = some { x with part := p } :=
  let ⟨x, _, hx, _, _, hc⟩ := h.attrs a ha
  ⟨x, _, hx, hc⟩

theorem Renames.part {σ : Nat → Nat} {g c r : Graph} (h : Renames σ g c r) {a : Nat} (ha : a ∈ g.labels) :
    ∃ q : Int, partOf? r a = some q ∧ partOf? c (σ a) = some q :=
  let ⟨_, q, _, hr, hc, _⟩ := h.attrs a ha
  ⟨q, hr, hc⟩

theorem Renames.toIso {σ : Nat → Nat} {g c r : Graph} (h : Renames σ g c r) : Iso SameIdent σ g c := by
  refine ⟨.of_eq h.labels, h.inj, fun a ha => ?_, fun a ha => nbrs_perm_map_of_nbrsD_perm (h.nbrs a ha)⟩
  obtain ⟨x, _, hx, hc⟩ := h.record ha
  exact ⟨x, _, hx, hc, rfl, rfl, rfl, rfl, rfl⟩

/-- **Canonicalization is a renaming that sets the class.** -/
theorem canonicalize_renames {order : Graph → List Nat}
    (hperm : ∀ r : Graph, r.WF → (order r).Perm r.labels)
    {g c r : Graph} {k : Nat} (hw : g.WF) (hs : g.Simple)
    (h : canonicalizeWith g order = .ok (c, r, k)) : ∃ σ : Nat → Nat, Renames σ g c r := by
  have sp := canonicalize_spec hw hs h
  have hgr := sp.reclassed
  obtain rfl := sp.relabelled
  obtain ⟨rel, cl, hrange⟩ := relabel_zipIdx_spec hgr.wf (hperm r hgr.wf)
  rw [hgr.labels] at cl
  rw [hgr.numberOfNodes] at hrange
  refine ⟨_, fun a ha b hb => rel.inj a (hgr.labels ▸ ha) b (hgr.labels ▸ hb), cl, hrange, rel.wf hgr.wf,
    rel.simple hgr.wf hgr.simple,
    fun a ha => (rel.nbrs a (hgr.labels ▸ ha)).trans ((hgr.nbrs a ha).map _), fun a ha => ?_⟩
  have har : a ∈ r.labels := hgr.labels ▸ ha
  obtain ⟨x, q, hx, hrx⟩ := hgr.attrs a ha
  -- the class is present because the refined classes are dense
  have hpr : partOf? r a = q := partOf?_of_attrs hrx
  obtain ⟨q', hq'⟩ := Option.isSome_iff_exists.mp (sp.dense.1 a har)
  rw [hpr] at hq'
  subst hq'
  have hca := (rel.attrs a har).trans hrx
  exact ⟨x, q', hx, hpr, partOf?_of_attrs hca, hca⟩

/-- **C04 (model level).**  For every oracle meeting the bliss contract, canonicalizing two descriptions
of one molecule gives the same labelled graph up to listing: labels `0 … n-1`, the same element, mass,
radical and class on every label, the same adjacency. -/
theorem canonical_graph_invariant (O : CanonOracle) {f : Nat → Nat} {g g' c c' r r' : Graph} {k k' : Nat}
    (iso : Iso SameIdent f g g') (hchem : g.Chem) (hw : g.WF) (hs : g.Simple) (hw' : g'.WF) (hs' : g'.Simple)
    (h : canonicalizeWith g O.order = .ok (c, r, k)) (h' : canonicalizeWith g' O.order = .ok (c', r', k')) :
    Iso SameIdentPart id c c' ∧ c.labels.Perm (List.range g.numberOfNodes) ∧
    c.WF ∧ c.Simple ∧ c'.WF ∧ c'.Simple := by
  obtain ⟨_, isoR, wr, _, wr', _⟩ := refined_equivariant iso hw hs hw' hs' h h'
  obtain ⟨_, R⟩ := canonicalize_renames O.perm hw hs h
  obtain ⟨_, R'⟩ := canonicalize_renames O.perm hw' hs' h'
  have sp := canonicalize_spec hw hs h
  obtain rfl := sp.relabelled
  obtain rfl := (canonicalize_spec hw' hs' h').relabelled
  exact ⟨canonical_relabel O wr wr' isoR (sp.reclassed.chem hchem) sp.respects, R.range, R.wf, R.simple, R'.wf, R'.simple⟩

/-- **C01 (model level).**  Two descriptions of the same molecule yield identical strings, for every
oracle meeting the bliss contract. -/
theorem tucan_invariant (O : CanonOracle) {f : Nat → Nat} {g g' : Graph} {s s' : Str}
    (iso : Iso SameIdent f g g') (hchem : g.Chem) (hw : g.WF) (hs : g.Simple) (hw' : g'.WF) (hs' : g'.Simple)
    (h : tucanOf O.order g = .ok s) (h' : tucanOf O.order g' = .ok s') : s = s' := by
  obtain ⟨c, r, k, p, hc, hser⟩ := tucanOf_eq_ok.mp h
  obtain ⟨c', r', k', p', hc', hser'⟩ := tucanOf_eq_ok.mp h'
  obtain ⟨isoC, _, cw, cs, cw', cs'⟩ := canonical_graph_invariant O iso hchem hw hs hw' hs' hc hc'
  exact serialize_congr c c' cw cs cw' cs' isoC s s' p p' hser hser'

theorem canonicalize_total (order : Graph → List Nat) {g : Graph} (hw : g.WF) (hs : g.Simple)
    (hne : g.labels ≠ [])
    (hattrs : ∀ a ∈ g.labels, ∃ x, g.attrs? a = some x ∧ x.z.isSome ∧ x.inv.isSome) :
    ∃ c r k, canonicalizeWith g order = .ok (c, r, k) := by
  obtain ⟨p, hp⟩ := partition_total_of_hasKey (attr := .invariantCode) hw fun b hb =>
    let ⟨_, hx, _, hinv⟩ := hattrs b hb
    HasKey.of_attrs hx hinv
  obtain ⟨r, n, hr, _⟩ := refinePartitions_of_inv hw hs hp hne
  exact ⟨_, r, n, canonicalizeWith_eq_ok.mpr ⟨p, hp, hr, rfl⟩⟩

theorem serialize_total {c : Graph} (hw : c.WF) (hne : c.labels ≠ [])
    (hattrs : ∀ a ∈ c.labels, ∃ x, c.attrs? a = some x ∧ x.z.isSome ∧ x.part.isSome) :
    ∃ s p, serializeMolecule c = .ok (s, p) := by
  -- the guard of `_labels_by_partition`
  have hguard : c.nodes.any (·.attrs.part.isNone) = false := by
    rw [List.any_eq_false]
    intro n hn hnone
    obtain ⟨x, hx, _, hpart⟩ := hattrs n.id (List.mem_map_of_mem hn)
    rw [attrs?_of_mem hw.nodup hn] at hx
    cases hx
    rw [Option.isNone_iff_eq_none.mp hnone] at hpart
    cases hpart
  obtain ⟨fl, hfl, _⟩ := finalLabels_ok _ (view_wf (reset_wf hw))
  obtain ⟨rel, hl1⟩ := finalLabels_relabel hw hfl
  have w1 := rel.wf (reset_wf hw)
  have hne1 : (c.resetExplored.relabelCopy fl).labels ≠ [] := by
    rw [hl1]
    simpa using hne
  have hkey : ∀ b ∈ (c.resetExplored.relabelCopy fl).labels,
      HasKey (c.resetExplored.relabelCopy fl) .atomicNumber b := by
    intro b hb
    rw [hl1] at hb
    obtain ⟨a, ha, rfl⟩ := List.mem_map.mp hb
    have hra := rel.attrs a (by rw [reset_labels]; exact ha)
    obtain ⟨x, hx, hz, _⟩ := hattrs a ha
    rw [reset_attrs?, hx] at hra
    exact HasKey.of_attrs hra (by simpa [Atom.key, resetF] using hz)
  exact ⟨_, _, serializeMolecule_eq_ok.mpr
    ⟨hguard, fl, _, hfl, sortBy_eq_ok.mpr ⟨HasKey.forall_nbrs w1 hkey, hne1, rfl⟩, rfl, rfl⟩⟩

/-- **C15 (model level).**  The whole pipeline returns a string. -/
theorem pipeline_total (order : Graph → List Nat) (hperm : ∀ r : Graph, r.WF → (order r).Perm r.labels)
    (g : Graph) (hw : g.WF) (hs : g.Simple) (hne : g.labels ≠ [])
    (hattrs : ∀ a ∈ g.labels, ∃ x, g.attrs? a = some x ∧ x.z.isSome ∧ x.inv.isSome) :
    ∃ s, tucanOf order g = .ok s := by
  obtain ⟨c, r, k, h⟩ := canonicalize_total order hw hs hne hattrs
  obtain ⟨σ, hσ⟩ := canonicalize_renames hperm hw hs h
  obtain ⟨s, q, hser⟩ := serialize_total hσ.wf (by rw [hσ.labels]; simpa using hne) (by
    intro b hb
    obtain ⟨a, ha, rfl⟩ := hσ.exists_of_mem hb
    obtain ⟨x, q, hx, _, _, hc⟩ := hσ.attrs a ha
    obtain ⟨y, hy, hz, _⟩ := hattrs a ha
    cases hx.symm.trans hy
    exact ⟨_, hc, hz, rfl⟩)
  exact ⟨s, tucanOf_eq_ok.mpr ⟨c, r, k, q, h, hser⟩⟩

end Tucan
