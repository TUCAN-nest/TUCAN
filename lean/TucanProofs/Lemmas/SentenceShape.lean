import TucanProofs.Lemmas.Sentence
import TucanProofs.Lemmas.LexRender
/-!
# A sentence of lexer tokens: what its syntax tree is made of, and that its text lexes back

A `GREATER_THAN_NINE` token the lexer emits (`lex_valid`) is a digit string that starts with `1`..`9`.  Hence, by
induction on the grammar's derivations (not on the recogniser), in the syntax tree of a sentence every count,
index and value is such a literal, every symbol is in the element table and every key is `mass` or `rad`.
With `parseTucan_iff` this is what the listeners may assume of the recogniser's output.

Conversely the tokens of a sentence cannot merge (`Sentence.separable`, again by induction on the derivation), so a
sentence of lexer tokens is lexed back from its text (`lex_render_sentence`).
-/
namespace Tucan.RejectKind
open Tucan

def PosText (t : Str) : Prop := ∃ c r, t = c :: r ∧ '1' ≤ c ∧ c ≤ '9'

def KeyText (k : Str) : Prop := k = "mass".toList ∨ k = "rad".toList

theorem isKey_text {k : Tok} (h : isKey k = true) : KeyText k.text := by
  simp only [isKey, Bool.or_eq_true, beq_iff_eq] at h
  rcases h with rfl | rfl
  · exact Or.inl rfl
  · exact Or.inr rfl

end Tucan.RejectKind

namespace Tucan.Acc
open Tucan RejectKind

def Lit (t : Str) : Prop := PosText t ∧ ∀ c ∈ t, isDigit c = true

theorem lit_iff {t : Str} : Lit t ↔ ∃ k, 1 ≤ k ∧ t = natRepr k := posNumeral_iff t

theorem lit_natRepr {k : Nat} (hk : 1 ≤ k) : Lit (natRepr k) := lit_iff.2 ⟨k, hk, rfl⟩

theorem gtZero_lit {t : Tok} (hv : ValidTok t = true) (hz : isGtZero t = true) : Lit t.text := by
  have key : ∀ (c : Char) (r : Str), '1' ≤ c ∧ c ≤ '9' → (∀ x ∈ r, isDigit x = true) → Lit (c :: r) :=
    fun c r hc hr => ⟨⟨c, r, rfl, hc⟩, List.forall_mem_cons.2 ⟨(digit19_iff.1 hc).1, hr⟩⟩
  match t with
  | .lit s =>
    simp only [isGtZero, digit1to9] at hz
    split at hz
    · next c => exact key c [] (by simpa using hz) (fun _ h => nomatch h)
    · cases hz
  | .big [] => cases hv
  | .big (c :: r) =>
    simp only [ValidTok, Bool.and_eq_true, decide_eq_true_eq, List.all_eq_true] at hv
    exact key c r hv.1.1 hv.2

theorem gtOne_gtZero {t : Tok} (h : isGtOne t = true) : isGtZero t = true := by
  cases t with
  | lit s =>
    simp only [isGtOne, Bool.and_eq_true] at h
    exact h.1
  | big ds => rfl

def FormulaOk (items : List (Str × Option Str)) : Prop :=
  ∀ p ∈ items, (elementZ p.1).isSome ∧ ∀ c, p.2 = some c → Lit c

def TuplesOk (tu : List (Str × Str)) : Prop := ∀ p ∈ tu, Lit p.1 ∧ Lit p.2

def PropsOk (ps : List (Str × Str)) : Prop := ∀ q ∈ ps, KeyText q.1 ∧ Lit q.2

def AttrsOk (ats : List (Str × List (Str × Str))) : Prop :=
  ∀ b ∈ ats, Lit b.1 ∧ b.2 ≠ [] ∧ PropsOk b.2

theorem optElems_ok {order : List Str} {ts : List Tok} {items : List (Str × Option Str)}
    (h : OptElems order ts items) : (∀ t ∈ ts, ValidTok t = true) →
    ∀ p ∈ items, p.1 ∈ order ∧ ∀ c, p.2 = some c → Lit c := by
  induction h with
  | done order => intro _ p hp; cases hp
  | @skip e es ts items _ ih =>
    intro hg p hp
    exact ⟨List.mem_cons_of_mem _ (ih hg p hp).1, (ih hg p hp).2⟩
  | @plain e es ts items _ ih =>
    intro hg p hp
    rcases List.mem_cons.1 hp with rfl | hp
    · exact ⟨List.mem_cons_self, fun c hc => by cases hc⟩
    · have := ih (fun t ht => hg t (List.mem_cons_of_mem _ ht)) p hp
      exact ⟨List.mem_cons_of_mem _ this.1, this.2⟩
  | @counted e es c ts items hc _ ih =>
    intro hg p hp
    rcases List.mem_cons.1 hp with rfl | hp
    · refine ⟨List.mem_cons_self, fun c' hc' => ?_⟩
      cases hc'
      exact gtZero_lit (hg c (by simp)) (gtOne_gtZero hc)
    · have := ih (fun t ht => hg t (by simp [ht])) p hp
      exact ⟨List.mem_cons_of_mem _ this.1, this.2⟩

theorem sumFormula_ok {ts : List Tok} {items : List (Str × Option Str)} (h : SumFormula ts items)
    (hg : ∀ t ∈ ts, ValidTok t = true) : FormulaOk items := by
  intro p hp
  obtain ⟨order, hsyms, ho⟩ := Sentence.sumFormula_symbols h
  have := optElems_ok ho hg p hp
  obtain ⟨z, hz, -⟩ := elementZ_elementSyms (hsyms _ this.1)
  exact ⟨by rw [hz]; rfl, this.2⟩

theorem tuples_ok {ts : List Tok} {r : List (Str × Str)} (h : Tuples ts r) :
    (∀ t ∈ ts, ValidTok t = true) → TuplesOk r := by
  induction h with
  | nil => intro _ p hp; cases hp
  | @cons a b ts r ha hb _ ih =>
    intro hg p hp
    rcases List.mem_cons.1 hp with rfl | hp
    · exact ⟨gtZero_lit (hg a (by simp)) ha, gtZero_lit (hg b (by simp)) hb⟩
    · exact ih (fun t ht => hg t (by simp [ht])) p hp

theorem props_ok {ts : List Tok} {r : List (Str × Str)} (h : Props ts r) :
    (∀ t ∈ ts, ValidTok t = true) → r ≠ [] ∧ PropsOk r := by
  induction h with
  | @one k v hk hv =>
    intro hg
    refine ⟨List.cons_ne_nil _ _, ?_⟩
    intro q hq
    rw [List.mem_singleton.1 hq]
    exact ⟨isKey_text hk, gtZero_lit (hg v (by simp)) hv⟩
  | @more k v ts r hk hv _ ih =>
    intro hg
    refine ⟨List.cons_ne_nil _ _, ?_⟩
    intro q hq
    rcases List.mem_cons.1 hq with rfl | hq
    · exact ⟨isKey_text hk, gtZero_lit (hg v (by simp)) hv⟩
    · exact (ih (fun t ht => hg t (by simp [ht]))).2 q hq

theorem attrs_ok {ts : List Tok} {r : List (Str × List (Str × Str))} (h : Attrs ts r) :
    (∀ t ∈ ts, ValidTok t = true) → AttrsOk r := by
  induction h with
  | nil => intro _ p hp; cases hp
  | @cons i ps pr ts r hi hp _ ih =>
    intro hg b hb
    rcases List.mem_cons.1 hb with rfl | hb
    · have := props_ok hp (fun t ht => hg t (by simp [ht]))
      exact ⟨gtZero_lit (hg i (by simp)) hi, this.1, this.2⟩
    · exact ih (fun t ht => hg t (by simp [ht])) b hb

structure TreeOk (ast : Ast) : Prop where
  formula : FormulaOk ast.formula
  tuples : TuplesOk ast.tuples
  attrs : AttrsOk ast.attrs

theorem sentence_ok {s : Str} {ts : List Tok} {ast : Ast} (hl : lex s = some ts) (h : Sentence ts ast) :
    TreeOk ast := by
  have hg := lex_valid hl
  cases h with
  | @plain f items tu tups hF hT =>
    refine ⟨sumFormula_ok hF (fun t ht => hg t (by simp [ht])),
      tuples_ok hT (fun t ht => hg t (by simp [ht])), fun b hb => by cases hb⟩
  | @withAttrs f items tu tups ta ats hF hT hA =>
    refine ⟨sumFormula_ok hF (fun t ht => hg t (by simp [ht])),
      tuples_ok hT (fun t ht => hg t (by simp [ht])), attrs_ok hA (fun t ht => hg t (by simp [ht]))⟩

end Tucan.Acc

namespace Tucan.Sentence
open Tucan LexRender

/-- the fixed literals by class (no table is evaluated) -/
theorem fixed_toks_ok :
    [tk "/", tk "(", tk ")", tk "-", tk ":", tk ",", tk "="].all punctOk = true ∧
    [tk "mass", tk "rad"].all keyOk = true ∧
    (List.range' 1 9).all (fun i => numOk (Tok.lit [i.digitChar])) = true := by
  decide +kernel

theorem ok_slash : punctOk (tk "/") = true := List.all_eq_true.mp fixed_toks_ok.1 _ (by simp)
theorem ok_lparen : punctOk (tk "(") = true := List.all_eq_true.mp fixed_toks_ok.1 _ (by simp)
theorem ok_rparen : punctOk (tk ")") = true := List.all_eq_true.mp fixed_toks_ok.1 _ (by simp)
theorem ok_minus : punctOk (tk "-") = true := List.all_eq_true.mp fixed_toks_ok.1 _ (by simp)
theorem ok_colon : punctOk (tk ":") = true := List.all_eq_true.mp fixed_toks_ok.1 _ (by simp)
theorem ok_comma : punctOk (tk ",") = true := List.all_eq_true.mp fixed_toks_ok.1 _ (by simp)
theorem ok_eq : punctOk (tk "=") = true := List.all_eq_true.mp fixed_toks_ok.1 _ (by simp)

theorem gtZero_not_lower {t : Tok} (hz : isGtZero t = true) (hv : ValidTok t = true) :
    t.text.head?.any isLower = false := by
  obtain ⟨⟨c, r, ht, -, h9⟩, -⟩ := Acc.gtZero_lit hv hz
  have : c.toNat ≤ 57 := h9
  rw [ht, List.head?_cons, Option.any_some, ← Bool.not_eq_true, isLower_iff]
  omega

theorem sep_sym_num {s : Str} {c : Tok} (h : s ∈ elementSyms) (hz : isGtZero c = true) (hv : ValidTok c = true) :
    Separable (Tok.lit s) c = true :=
  okAfter_of (.inr (gtZero_not_lower hz hv))
    (.inl (symbolShape_tok (List.all_eq_true.1 elementSymbols_shape s h)).1)

/-- `x? y? z? …` is empty or starts with a symbol, so any token `a` may stand in front; a symbol is followed by the
next symbol or by its count -/
theorem optElems_separable {order : List Str} {ts : List Tok} {items : List (Str × Option Str)}
    (h : OptElems order ts items) (ho : ∀ e ∈ order, e ∈ elementSyms) (hv : ∀ t ∈ ts, ValidTok t = true) (a : Tok) :
    chainSeparable (a :: ts) = true := by
  induction h generalizing a with
  | done order => rfl
  | skip _ ih => exact ih (fun x hx => ho x (List.mem_cons_of_mem _ hx)) hv a
  | @plain e es ts items _ ih =>
    rw [chainSeparable, sep_sym (ho e List.mem_cons_self),
      ih (fun x hx => ho x (List.mem_cons_of_mem _ hx)) fun t ht => hv t (List.mem_cons_of_mem _ ht)]
    rfl
  | @counted e es c ts items hc _ ih =>
    have he := ho e List.mem_cons_self
    rw [chainSeparable, chainSeparable, sep_sym he, sep_sym_num he (Acc.gtOne_gtZero hc) (hv c (by simp)),
      ih (fun x hx => ho x (List.mem_cons_of_mem _ hx)) fun t ht => hv t (by simp [ht])]
    rfl

theorem tuples_separable {ts : List Tok} {r : List (Str × Str)} (h : Tuples ts r) : chainSeparable ts = true := by
  induction h with
  | nil => rfl
  | @cons a b ts _ _ _ _ ih =>
    show chainSeparable ([] ++ tk "(" :: ([a] ++ tk "-" :: ([b] ++ tk ")" :: ts))) = true
    rw [chain_punct ok_lparen, chain_punct ok_minus, chain_punct ok_rparen, ih]
    rfl

theorem props_separable {ts : List Tok} {r : List (Str × Str)} (h : Props ts r) : chainSeparable ts = true := by
  induction h with
  | @one k v _ _ =>
    show chainSeparable ([k] ++ tk "=" :: [v]) = true
    rw [chain_punct ok_eq]
    rfl
  | @more k v ts _ _ _ _ ih =>
    show chainSeparable ([k] ++ tk "=" :: ([v] ++ tk "," :: ts)) = true
    rw [chain_punct ok_eq, chain_punct ok_comma, ih]
    rfl

theorem attrs_separable {ts : List Tok} {r : List (Str × List (Str × Str))} (h : Attrs ts r) :
    chainSeparable ts = true := by
  induction h with
  | nil => rfl
  | @cons i ps _ ts _ _ hp _ ih =>
    show chainSeparable ([] ++ tk "(" :: ([i] ++ tk ":" :: (ps ++ tk ")" :: ts))) = true
    rw [chain_punct ok_lparen, chain_punct ok_colon, chain_punct ok_rparen, props_separable hp, ih]
    rfl

/-- the tokens of a sentence cannot merge.  Everything but the formula is numbers and keys between punctuation
(`chain_punct`); in the formula a symbol is followed by the next symbol, by `/` or by its count, and a count (any number token
the lexer can produce) does not begin with a lower-case letter -/
theorem separable {ts : List Tok} {ast : Ast} (h : Sentence ts ast) (hv : ∀ t ∈ ts, ValidTok t = true) :
    chainSeparable ts = true := by
  have tail : ∀ {a : Tok} {l : List Tok}, chainSeparable (a :: l) = true → chainSeparable l = true := fun {_ l} h => by
    cases l with
    | nil => rfl
    | cons _ _ => exact (Bool.and_eq_true_iff.1 h).2
  have formula : ∀ {f items}, SumFormula f items → (∀ t ∈ f, ValidTok t = true) → chainSeparable f = true :=
    fun hF hv => by
      obtain ⟨order, hsyms, ho⟩ := sumFormula_symbols hF
      exact tail (optElems_separable ho hsyms hv default)
  cases h with
  | plain hF hT =>
    rw [chain_punct ok_slash, formula hF fun t ht => hv t (by simp [ht]), tuples_separable hT]
    rfl
  | withAttrs hF hT hA =>
    rw [chain_punct ok_slash, chain_punct ok_slash, formula hF fun t ht => hv t (by simp [ht]), tuples_separable hT,
      attrs_separable hA]
    rfl

end Tucan.Sentence

namespace Tucan

theorem lex_render_sentence {ts : List Tok} {ast : Ast} (h : Sentence ts ast) (hv : ∀ t ∈ ts, ValidTok t = true) :
    lex (render ts) = some ts :=
  lex_render ts hv (h.separable hv)

end Tucan
