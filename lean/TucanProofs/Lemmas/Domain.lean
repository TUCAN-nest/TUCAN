import TucanProofs.Lemmas.Iso
import TucanProofs.Lemmas.Tables
/-!
# The domain of the theorems about strings: chemistry-level atoms

`Atom.Chem` (symbol, atomic number and invariant code agree with the table; "no label" is absence) is what C01 and C04
need to conclude equal identity from equal invariant codes; `MolAtom` adds what the round trip needs (a symbol, positive
printable masses and radicals).  Both are what the readers and the parser produce, and both travel along `SameIdent`.
-/
namespace Tucan

/-- An atom as the readers and the parser produce it: element symbol and atomic number agree with the
table, the invariant code is `(Z, mass or 0, radical or 0)`, and "no isotope label" / "no radical" are
represented by absence, never by 0. -/
def Atom.Chem (x : Atom) : Prop :=
  ∃ z : Int, x.z = some z ∧ x.sym = symOfZ z ∧ x.inv = some [z, x.mass.getD 0, x.rad.getD 0] ∧
    x.mass ≠ some 0 ∧ x.rad ≠ some 0

def Graph.Chem (g : Graph) : Prop := ∀ a ∈ g.labels, ∀ x, g.attrs? a = some x → x.Chem

/-- the atom-level domain of the round trip -/
structure MolAtom (x : Atom) : Prop where
  chem : x.Chem
  sym : ∃ s, x.sym = some s
  massPos : ∀ v, x.mass = some v → 0 < v ∧ (intRepr v).length ≤ intMaxStrDigits
  radPos : ∀ v, x.rad = some v → 0 < v ∧ (intRepr v).length ≤ intMaxStrDigits

def Graph.MolAtoms (g : Graph) : Prop := ∀ a ∈ g.labels, ∀ x, g.attrs? a = some x → MolAtom x

theorem Graph.MolAtoms.chem {g : Graph} (h : g.MolAtoms) : g.Chem := fun a ha x hx => (h a ha x hx).chem

theorem Graph.Chem.z_inv_isSome {g : Graph} (h : g.Chem) :
    ∀ a ∈ g.labels, ∃ x, g.attrs? a = some x ∧ x.z.isSome ∧ x.inv.isSome := by
  intro a ha
  obtain ⟨x, hx⟩ := Graph.attrs?_some_of_mem ha
  obtain ⟨z, hz, -, hi, -⟩ := h a ha x hx
  exact ⟨x, hx, by rw [hz]; rfl, by rw [hi]; rfl⟩

theorem MolAtom.sym_z {x : Atom} (h : MolAtom x) :
    ∃ s, x.sym = some s ∧ s ∈ elementSyms ∧ elementZ s = some (x.z.getD 0).toNat ∧
      x.z = some ((x.z.getD 0).toNat : Int) := by
  obtain ⟨z, hz, hs, _⟩ := h.chem
  obtain ⟨s, hsym⟩ := h.sym
  obtain ⟨h1, h2, h3⟩ := symOfZ_spec (hs.symm.trans hsym)
  rw [hz, Option.getD_some, Int.toNat_of_nonneg (by omega)]
  exact ⟨s, hsym, h1, h2, rfl⟩

theorem Option.eq_of_getD_eq {α} {d : α} : ∀ {a b : Option α}, a ≠ some d → b ≠ some d →
    a.getD d = b.getD d → a = b
  | none, none, _, _, _ => rfl
  | none, some _, _, hb, h => absurd (congrArg some h.symm) hb
  | some _, none, ha, _, h => absurd (congrArg some h) ha
  | some _, some _, _, _, h => congrArg some h

theorem Atom.Chem.sameIdent_of_inv {x y : Atom} (hx : x.Chem) (hy : y.Chem) (h : x.inv = y.inv) : SameIdent x y := by
  obtain ⟨z, hz, hs, hi, hm, hr⟩ := hx
  obtain ⟨z', hz', hs', hi', hm', hr'⟩ := hy
  have e := h
  rw [hi, hi'] at e
  simp only [Option.some.injEq, List.cons.injEq, and_true] at e
  obtain ⟨rfl, hmm, hrr⟩ := e
  exact ⟨hz.trans hz'.symm, hs.trans hs'.symm, Option.eq_of_getD_eq hm hm' hmm,
    Option.eq_of_getD_eq hr hr' hrr, h⟩

theorem Atom.Chem.sameIdent {x y : Atom} (hx : x.Chem) (hy : y.Chem) (hz : x.z = y.z) (hm : x.mass = y.mass)
    (hr : x.rad = y.rad) : SameIdent x y := by
  apply hx.sameIdent_of_inv hy
  obtain ⟨z, h1, _, h3, _⟩ := hx
  obtain ⟨z', h1', _, h3', _⟩ := hy
  rw [h3, h3', ← hm, ← hr]
  rw [h1, h1'] at hz
  rw [Option.some.inj hz]

theorem SameIdent.chem {x y : Atom} (h : SameIdent x y) (hx : x.Chem) : y.Chem := by
  obtain ⟨z, hz, hs, hi, hm, hr⟩ := hx
  obtain ⟨h1, h2, h3, h4, h5⟩ := h
  exact ⟨z, by rw [← h1, hz], by rw [← h2, hs], by rw [← h5, hi, h3, h4], by rw [← h3]; exact hm, by rw [← h4]; exact hr⟩

theorem Graph.MolAtoms.of_iso {f : Nat → Nat} {g h : Graph} (hg : g.MolAtoms) (iso : Iso SameIdent f g h) :
    h.MolAtoms := by
  intro a ha x hx
  obtain ⟨b, hb, rfl⟩ := iso.exists_preimage ha
  obtain ⟨x0, y, hx0, hy, hxy⟩ := iso.attrs b hb
  obtain rfl := Option.some.inj (hy.symm.trans hx)
  have h0 := hg b hb x0 hx0
  exact ⟨hxy.chem h0.chem, hxy.sym ▸ h0.sym, hxy.mass ▸ h0.massPos, hxy.rad ▸ h0.radPos⟩

end Tucan
