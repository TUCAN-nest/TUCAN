import TucanProofs.Lemmas.WriteRead
import TucanProofs.Lemmas.GraphFromMolecule
/-!
# The written file is a V3000 connection table, and is read through the reader's specification

The lines `graph_to_molfile` produces form a V3000 connection table as `IsV3000File` (the hypothesis bundle of C07's
specification theorem) defines one, with the entries `writtenAtom`, `writtenBond`.  These are, in order, the entries of
the dictionaries `WR.atomDict g`, `WR.bondDict g.edges`; so the specification says that the reader returns those, and
`graph_from_molecule` builds from them the written graph with its `i`-th listed node renamed `i`.
-/
namespace Tucan

/-- a graph the writer writes faithfully: labels `0 … n-1` listed in any order, writable atoms, bond types and counts
within CPython's integer-conversion limit — the hypotheses `hw`, `hlab`, `hatoms`, `hbonds`, `hsize` of C09's theorems -/
structure WritableGraph (g : Graph) : Prop where
  wf : g.WF
  labels : g.labels.Perm (List.range g.numberOfNodes)
  atoms : ∀ n ∈ g.nodes, WritableAtom n
  bonds : ∀ n ∈ g.nodes, ∀ e ∈ n.nbrs, ∀ bt, e.2.btype = some bt → (intRepr bt).length ≤ intMaxStrDigits
  size : (natRepr (g.numberOfNodes + g.numberOfEdges + 1)).length ≤ intMaxStrDigits

namespace WIV
open LineM WR V3L

theorem atoms_ok (g : Graph) (w : WritableGraph g) : ∀ e ∈ g.nodes.map writtenAtom, e.Ok := by
  intro e he
  obtain ⟨n, hn, rfl⟩ := List.mem_map.1 he
  have hw := w.atoms n hn
  have hid := List.mem_range.1 (w.labels.mem_iff.1 (List.mem_map_of_mem (f := (·.id)) hn))
  obtain ⟨s, hs, hel⟩ := hw.sym
  refine ⟨?_, V3L.natRepr_notKeyword _,
    V3L.natRepr_notKeyword 0, fun t ht => ⟨(hw.coords t ht).1, (hw.coords t ht).2.1⟩,
    props_ok hw.props, Or.inl (hs ▸ hel)⟩
  exact pyInt_natRepr _ (natRepr_length_le_of_le (Nat.le_trans hid (Nat.le_trans (Nat.le_add_right _ _) (Nat.le_add_right _ _))) w.size)

/-- about variable fields: on `writtenBond p` itself the unifier meets `natRepr (k + 1)` against a projection and
unfolds `natRepr` first -/
theorem bond_ok {t : Str} {bt a1 a2 : Int}
    (ht : IsToken t ∧ '(' ∉ t ∧ ')' ∉ t)
    (h : (intRepr bt).length ≤ intMaxStrDigits ∧ (intRepr a1).length ≤ intMaxStrDigits ∧
      (intRepr a2).length ≤ intMaxStrDigits) : BondEntry.Ok ⟨t, bt, a1, a2, [], none, []⟩ :=
  ⟨⟨ht.1, Bool.eq_false_iff.1 (noInfix_of_noParen ht.2.1), ht.2.2⟩, h, nofun, nofun, nofun⟩

theorem bonds_ok (g : Graph) (w : WritableGraph g) : ∀ b ∈ g.edges.zipIdx.map writtenBond, b.Ok := by
  obtain ⟨hw, hlab, -, hbonds, hsize⟩ := w
  intro b hb
  obtain ⟨⟨⟨u, v, d⟩, k⟩, hp, rfl⟩ := List.mem_map.1 hb
  have hd := Graph.mem_edges hw ((List.mem_zipIdx hp).2.2 ▸ List.getElem_mem _)
  have hu := List.mem_range.1 (hlab.mem_iff.1 (NxE.mem_labels_of_mem_nbrsD hd))
  have hv := List.mem_range.1 (hlab.mem_iff.1 (hw.closedD hd))
  have hbt : (intRepr (d.btype.getD 1)).length ≤ intMaxStrDigits := by
    obtain ⟨n, hn, -, hm⟩ := NxE.mem_nbrsD hd
    cases hbt : d.btype with
    | none => exact intRepr_small_len 1 (by decide) (by decide)
    | some bt => exact hbonds n hn (v, d) hm bt hbt
  have hn (a : Nat) (ha : a < g.numberOfNodes) : (intRepr ((a : Int) + 1)).length ≤ intMaxStrDigits := by
    rw [intRepr_succ]
    exact natRepr_length_le_of_le (Nat.le_trans ha (Nat.le_trans (Nat.le_add_right _ _) (Nat.le_add_right _ _))) hsize
  -- the running number is a numeral: no parenthesis in it
  have hk : IsToken (intRepr ((k : Int) + 1)) ∧ '(' ∉ intRepr ((k : Int) + 1) ∧ ')' ∉ intRepr ((k : Int) + 1) :=
    ⟨intRepr_isToken _, not_mem_intRepr (by decide) (by decide) _, not_mem_intRepr (by decide) (by decide) _⟩
  exact bond_ok (intRepr_succ k ▸ hk) ⟨hbt, hn u hu, hn v hv⟩

end WIV

/-- **The written file is a V3000 connection table** with one atom entry per node (in listing order) and one
bond entry per reported edge; its fourth line ends in `V3000`. -/
theorem written_isV3000File {g : Graph} (w : WritableGraph g) {hdr : Str} (hh : GoodHeader hdr) {lines : List Str}
    (hwr : graphToMolfileLines g hdr = .ok lines) :
    IsV3000File lines (g.nodes.map writtenAtom) (g.edges.zipIdx.map writtenBond) ∧
    (∀ l3, lines[3]? = some l3 → EndsInWord l3 (cs "V3000")) := by
  obtain rfl := Except.ok.inj ((WR.writer_shape g hdr w.atoms).symm.trans hwr)
  obtain ⟨g1, g2, g3, g4, g5, g6⟩ := WR.rendered_fixed
  have hnA : (g.nodes.map writtenAtom).length = g.numberOfNodes := List.length_map _
  have hnB : (g.edges.zipIdx.map writtenBond).length = g.edges.length := by simp
  have hE : (g.edges.zipIdx.map writtenBond).isEmpty = g.edges.isEmpty := by
    cases g.edges <;> rfl
  obtain ⟨full, -, htail⟩ :=
    V3F.rendered_splice g2 [WR.mEnd] [WR.mEnd] (by rw [concatLinesWithDash])
  have hpre {l : Str} (h : startsWith l v30Prefix = false) : (startsWith l v30Prefix && endsWithChar l '-') = false := by
    rw [h]; rfl
  have hnil : startsWith [] v30Prefix = false := by decide +kernel
  refine ⟨⟨[], hdr, [], WR.line3, WR.tBeginCtab, [['0'], ['0'], ['0']], WR.W WR.tEndCtab ++ [WR.mEnd], [full, WR.mEnd],
      WR.W WR.tBeginCtab, WR.W (WR.countsToks g.numberOfNodes g.edges.length), WR.W V3L.tBeginAtom,
      WR.W V3L.tEndAtom, WR.W V3L.tBeginBond, WR.W V3L.tEndBond,
      g.nodes.map (fun n => WR.W (writtenAtom n).toks), g.edges.zipIdx.map (fun p => WR.W (writtenBond p).toks),
      ?_, ?_, g1, ?_, g3, g4, g5, g6,
      allRendered_map _ _ _ _ fun n hn => WR.rendered_atom n (w.atoms n hn),
      allRendered_map _ _ _ _ fun p _ => WR.rendered_bond p,
      WIV.atoms_ok g w, WIV.bonds_ok g w, ?_, htail, by simp⟩,
    fun l3 h3 => ?_⟩
  · rw [WR.fileLines, WR.logicalToks, List.map_append, List.flatten_append, ctab_map, ctab_flatten, hE, List.map_map,
      List.map_map, List.map_singleton, List.flatten_singleton, List.append_assoc _ _ [WR.mEnd], List.append_assoc _ _ [WR.mEnd]]
    rfl
  · simp only [List.forall_mem_cons]
    exact ⟨hpre hnil, hpre hh.2, hpre hnil, hpre WR.line3_facts.2.2, nofun⟩
  · rw [hnA, hnB]
    exact WR.rendered_counts _ _
  · rw [hnA, hnB]
    exact ⟨natRepr_length_le_of_le (Nat.le_trans (Nat.le_add_right _ _) (Nat.le_add_right _ _)) w.size,
      natRepr_length_le_of_le (Nat.le_trans (Nat.le_add_left _ g.numberOfNodes) (Nat.le_add_right _ _)) w.size⟩
  · rw [WR.fileLines] at h3
    exact Option.some.inj h3 ▸ versionLine_v3000

namespace WR
open LineM

/-- the atomic number the reader looks up for the node's symbol -/
def zOf (n : Node) : Int :=
  match atomicNumberOf (n.attrs.sym.getD []) with
  | .ok z => z
  | .error _ => 0

/-- the attribute record the reader builds from the node's atom line -/
def atomRec (n : Node) : Atom :=
  { sym := n.attrs.sym, z := some (zOf n), part := some 0,
    x := some (n.attrs.x.getD zeroCoord), y := some (n.attrs.y.getD zeroCoord),
    zc := some (n.attrs.zc.getD zeroCoord),
    chg := n.attrs.chg, rad := n.attrs.rad, mass := n.attrs.mass }

/-- by `simp only`: left to the unifier, `zOf n` against `(some (zOf n)).getD 0` unfolds the `match` in `zOf` first -/
theorem inv'_atomRec (n : Node) : GFM.inv' (atomRec n) = readBackAtom n.attrs (zOf n) := by
  simp only [GFM.inv', atomRec, readBackAtom, Option.getD_some]

def atomDict (g : Graph) : List (Int × Atom) := g.nodes.map fun n => ((n.id : Int), atomRec n)

/-- the dictionary entry the reader makes of a written bond line -/
def bondRec (e : Nat × Nat × Bond) : (Int × Int) × Bond :=
  (((e.1 : Int), (e.2.1 : Int)), { btype := some (e.2.2.btype.getD 1) })

def bondDict (es : List (Nat × Nat × Bond)) : List ((Int × Int) × Bond) := es.map bondRec

/-- no unordered pair of atoms is reported twice: the normalised key of an entry is that of its edge -/
theorem bondDict_norm_nodup (g : Graph) (hw : g.WF) :
    ((bondDict g.edges).map fun b => if b.1.1 ≤ b.1.2 then (b.1.1, b.1.2) else (b.1.2, b.1.1)).Nodup := by
  have hn := NxE.edges_norm_nodup hw
  rw [bondDict, List.map_map]
  refine (List.Nodup.of_map _ hn).map_on _ fun e he e' he' h => hn.inj_on_of_map e he e' he' (orderedPair_eq_iff.2 ?_)
  simpa only [bondRec, Int.natCast_inj] using orderedPair_eq_iff.1 h

theorem atomDict_length (g : Graph) : (atomDict g).length = g.numberOfNodes := List.length_map _

theorem atomDict_keys (g : Graph) : (atomDict g).map (·.1) = g.labels.map (fun (i : Nat) => (i : Int)) := by
  simp [atomDict, Graph.labels]

theorem atomDict_keys_nodup (g : Graph) (hw : g.WF) : ((atomDict g).map (·.1)).Nodup := by
  rw [atomDict_keys]
  exact hw.nodup.map_on _ fun _ _ _ _ => Int.ofNat.inj

theorem atomDict_getElem (g : Graph) (i : Nat) (hi : i < g.nodes.length) :
    (atomDict g)[i]'(by rw [atomDict_length]; exact hi) = ((g.nodes[i].id : Int), atomRec g.nodes[i]) := by
  simp [atomDict]

theorem keyPos_atomDict (g : Graph) (hw : g.WF) (i : Nat) (hi : i < g.nodes.length) (k : Int) :
    keyPos (atomDict g) k = some i ↔ k = (g.nodes[i].id : Int) := by
  rw [keyPos_eq_some_iff (atomDict_keys_nodup g hw), atomDict_keys]
  simp [Graph.labels, hi, eq_comm]

theorem bondDict_keys (g : Graph) (hw : g.WF) :
    ∀ p ∈ bondDict g.edges, p.1.1 ∈ (atomDict g).map (·.1) ∧ p.1.2 ∈ (atomDict g).map (·.1) := by
  intro p hp
  obtain ⟨⟨u, v, d⟩, he, rfl⟩ := List.mem_map.1 hp
  have h1 := Graph.mem_edges hw he
  rw [atomDict_keys]
  exact ⟨List.mem_map_of_mem (NxE.mem_labels_of_mem_nbrsD h1), List.mem_map_of_mem (hw.closedD h1)⟩

theorem bondDict_goodKeys (g : Graph) (hw : g.WF) (hs : g.Simple) :
    GoodKeyBonds (atomDict g) (bondDict g.edges) := by
  refine ⟨fun b hb => ?_, bondDict_norm_nodup g hw⟩
  obtain ⟨k1, k2⟩ := bondDict_keys g hw b hb
  obtain ⟨⟨u, v, d⟩, he, rfl⟩ := List.mem_map.1 hb
  have hne := hs.neD (Graph.mem_edges hw he)
  exact ⟨keyPos_isSome.2 k1, keyPos_isSome.2 k2, by simp only [bondRec]; omega⟩

theorem mem_bondDict {es : List (Nat × Nat × Bond)} {u v : Nat} {d' : Bond} :
    (((u : Int), (v : Int)), d') ∈ bondDict es ↔
      ∃ d, (u, v, d) ∈ es ∧ d' = { btype := some (d.btype.getD 1) } := by
  simp only [bondDict, List.mem_map, bondRec, Prod.mk.injEq, Int.ofNat_inj]
  constructor
  · rintro ⟨⟨u', v', d⟩, he, ⟨rfl, rfl⟩, rfl⟩
    exact ⟨d, he, rfl⟩
  · rintro ⟨d, he, rfl⟩
    exact ⟨(u, v, d), he, ⟨rfl, rfl⟩, rfl⟩

theorem record_written (n : Node) (hw : WritableAtom n) :
    (writtenAtom n).record = some (atomRec n) ∧ atomicNumberOf (n.attrs.sym.getD []) = .ok (zOf n) := by
  obtain ⟨s, hs, hel⟩ := hw.sym
  obtain ⟨z, hz, -⟩ := atomicNumberOf_elementSyms s hel
  obtain ⟨vc, vr, vm⟩ := props_read hw.props
  have hzOf : zOf n = z := by simp [zOf, hs, hz]
  refine ⟨?_, by rw [hzOf, hs]; exact hz⟩
  simp only [writtenAtom, AtomEntry.record, atomRec, hs, Option.getD_some, detect_elementSym hel, hz, hzOf, vc, vr, vm,
    if_true]

/-- **the written atom lines and bond lines are, in order, the entries of the graph's dictionaries** -/
theorem written_entries (g : Graph) (hatoms : ∀ n ∈ g.nodes, WritableAtom n) :
    (g.nodes.map writtenAtom).map (fun e => (e.idx - 1, e.record)) = (atomDict g).map (fun p => (p.1, some p.2)) ∧
      (g.edges.zipIdx.map writtenBond).map (fun b => ((b.a1 - 1, b.a2 - 1), ({ btype := some b.btype } : Bond))) =
        bondDict g.edges := by
  constructor
  · rw [atomDict, List.map_map, List.map_map]
    refine List.map_congr_left fun n hn => ?_
    simp only [Function.comp, (record_written n (hatoms n hn)).1]
    simp [writtenAtom, AtomEntry.idx]
  · rw [bondDict, List.map_map, ← congrArg (List.map bondRec) (List.zipIdx_map_fst 0 g.edges), List.map_map]
    exact List.map_congr_left fun p _ => by simp [writtenBond, bondRec]

end WR

theorem written_text_reads (g : Graph) (w : WritableGraph g) (hdr : Str) (hh : GoodHeader hdr) :
    ∃ lines, graphToMolfileLines g hdr = .ok lines ∧ (∀ l ∈ lines, l.length ≤ 79 ∨ l = hdr) ∧
      graphFromMolfileText (joinLines lines) =
        (graphFromMolecule (WR.atomDict g) (WR.bondDict g.edges) >>= fun q => pure q.1) := by
  have hw := w.wf
  have hatoms := w.atoms
  obtain ⟨f, hver⟩ := written_isV3000File w hh (WR.writer_shape g hdr hatoms)
  have hok := WR.fileLines_ok hh (WR.logicalToks_rendered g hatoms)
  have hlast : ∀ l, (WR.fileLines hdr (WR.logicalToks g)).getLast? = some l → l ≠ [] := fun l hl => by
    rw [WR.fileLines, List.getLast?_concat] at hl
    exact Option.some.inj hl ▸ (by decide +kernel : WR.mEnd ≠ [])
  refine ⟨_, WR.writer_shape g hdr hatoms, fun l hl => (hok l hl).2, ?_⟩
  obtain ⟨hA, hB⟩ := WR.written_entries g hatoms
  have hBk : ((WR.bondDict g.edges).map (·.1)).Nodup :=
    .of_map (fun k : Int × Int => if k.1 ≤ k.2 then (k.1, k.2) else (k.2, k.1))
      (by rw [List.map_map]; exact WR.bondDict_norm_nodup g hw)
  rw [f.text_reads (text := joinLines _) ⟨fun l hl => (hok l hl).1, ['\n'], Or.inl rfl, Or.inr ⟨rfl, hlast⟩⟩ hver,
    f.reads_entries hA (WR.atomDict_keys_nodup g hw) hB hBk (WR.bondDict_keys g hw)]
  rfl

/-- `g'` is `g` with its `i`-th listed node renamed `i`, as a molfile carries it: on that node the fields of
`readBackAtom`, and `i`, `j` bonded exactly when the `i`-th and `j`-th listed nodes were, a missing bond type being 1 -/
structure ReadBack (g g' : Graph) : Prop where
  labels : g'.labels = List.range g.numberOfNodes
  wf : g'.WF
  simple : g'.Simple
  attrs : ∀ i (hi : i < g.nodes.length), ∃ z, atomicNumberOf ((g.nodes[i].attrs.sym).getD []) = .ok z ∧
    g'.attrs? i = some (readBackAtom g.nodes[i].attrs z)
  nbrs : ∀ i j (hi : i < g.nodes.length) (hj : j < g.nodes.length) (d' : Bond), (j, d') ∈ g'.nbrsD i ↔
    ∃ d, (g.nodes[j].id, d) ∈ g.nbrsD g.nodes[i].id ∧ d' = { btype := some (d.btype.getD 1) }

theorem ReadBack.nbrs_typed {g g' : Graph} (r : ReadBack g g') (i j : Nat) (hi : i < g.nodes.length)
    (hj : j < g.nodes.length) (bt : Int) : (j, ({ btype := some bt } : Bond)) ∈ g'.nbrsD i ↔
      ∃ d, (g.nodes[j].id, d) ∈ g.nbrsD g.nodes[i].id ∧ d.btype.getD 1 = bt := by
  have typed (d : Bond) : ({ btype := some bt } : Bond) = { btype := some (d.btype.getD 1) } ↔ d.btype.getD 1 = bt :=
    ⟨fun he => (Option.some.inj (congrArg Bond.btype he)).symm, fun h => h ▸ rfl⟩
  simp only [r.nbrs i j hi hj, typed]

/-- for a graph listed in the order of its labels `0 … n-1` positions are labels, so `ReadBack` speaks of the nodes and
neighbours of `g` themselves -/
theorem ReadBack.of_consecutive {g g' : Graph} (r : ReadBack g g') (hw : g.WF)
    (hlab : g.labels = List.range g.numberOfNodes) :
    (∀ n ∈ g.nodes, ∃ z, atomicNumberOf ((n.attrs.sym).getD []) = .ok z ∧
      g'.attrs? n.id = some (readBackAtom n.attrs z)) ∧
    ∀ i j bt, (j, ({ btype := some bt } : Bond)) ∈ g'.nbrsD i ↔ ∃ d, (j, d) ∈ g.nbrsD i ∧ d.btype.getD 1 = bt := by
  have hid : ∀ i (hi : i < g.nodes.length), g.nodes[i].id = i := fun i hi => by
    simpa [Graph.labels, Graph.numberOfNodes, hi] using congrArg (·[i]?) hlab
  refine ⟨fun n hn => ?_, fun i j bt => ?_⟩
  · obtain ⟨i, hi, rfl⟩ := List.getElem_of_mem hn
    rw [hid i hi]
    exact r.attrs i hi
  · have key (hi : i ∈ List.range g.numberOfNodes) (hj : j ∈ List.range g.numberOfNodes) := by
      simpa only [hid i (List.mem_range.1 hi), hid j (List.mem_range.1 hj)] using
        r.nbrs_typed i j (List.mem_range.1 hi) (List.mem_range.1 hj) bt
    -- either side makes `i`, `j` labels: of `g'` on the left, of `g` on the right
    exact ⟨fun h => (key (r.labels ▸ NxE.mem_labels_of_mem_nbrsD h) (r.labels ▸ r.wf.closedD h)).1 h,
      fun ⟨d, h, hbt⟩ => (key (hlab ▸ NxE.mem_labels_of_mem_nbrsD h) (hlab ▸ hw.closedD h)).2 ⟨d, h, hbt⟩⟩

/-- **Write, then read**: the file is written, within 79 characters a line, and read back as `ReadBack g`. -/
theorem write_read_gen (g : Graph) (w : WritableGraph g) (hs : g.Simple) (hdr : Str) (hh : GoodHeader hdr) :
    ∃ lines g', graphToMolfileLines g hdr = .ok lines ∧ (∀ l ∈ lines, l.length ≤ 79 ∨ l = hdr) ∧
      graphFromMolfileText (joinLines lines) = .ok g' ∧ ReadBack g g' := by
  obtain ⟨lines, hwr, hlen, hrd⟩ := written_text_reads g w hdr hh
  have hw := w.wf
  obtain ⟨g', post, hgfm, k⟩ := graphFromMolecule_keys (WR.atomDict g) (WR.bondDict g.edges)
    (WR.atomDict_keys_nodup g hw) (WR.bondDict_goodKeys g hw hs) (List.forall_mem_map.2 fun _ _ => rfl)
  refine ⟨lines, g', hwr, hlen, by rw [hrd, hgfm]; rfl, by rw [k.labels, WR.atomDict_length], k.wf, k.simple, ?_, ?_⟩
  · intro i hi
    have hx := k.attrs i (by rw [WR.atomDict_length]; exact hi)
    rw [WR.atomDict_getElem g i hi, WR.inv'_atomRec] at hx
    exact ⟨WR.zOf g.nodes[i], (WR.record_written _ (w.atoms _ (List.getElem_mem hi))).2, hx⟩
  · intro i j hi hj d'
    -- positions are the listed labels, dictionary entries the reported edges, an edge in either direction an adjacency
    simp only [k.nbrs, WR.keyPos_atomDict g hw i hi, WR.keyPos_atomDict g hw j hj, exists_and_left, exists_eq_left,
      WR.mem_bondDict, NxE.mem_nbrsD_iff_edges hw, or_and_right, exists_or]

/-- … for a written file and its reading that are given -/
theorem ReadBack.of_read {g : Graph} (w : WritableGraph g) (hs : g.Simple) {hdr : Str} (hh : GoodHeader hdr)
    {lines : List Str} {g' : Graph} (hwr : graphToMolfileLines g hdr = .ok lines)
    (hrd : graphFromMolfileText (joinLines lines) = .ok g') : ReadBack g g' := by
  obtain ⟨lines0, g0, hwr0, -, hrd0, r⟩ := write_read_gen g w hs hdr hh
  obtain rfl := Except.ok.inj (hwr.symm.trans hwr0)
  obtain rfl := Except.ok.inj (hrd.symm.trans hrd0)
  exact r

end Tucan
