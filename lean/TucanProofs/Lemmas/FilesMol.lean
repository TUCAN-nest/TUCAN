import TucanProofs.Lemmas.Agreement
import TucanProofs.Lemmas.Pipeline
/-!
# Graphs of conformant molecules are in the domain of the string-level theorems

A graph *of* a molecule whose stated isotope masses and radicals are non-negative (0 = not stated; the
CTfile specification has no negative mass or radical) is in the domain `MolAtoms` of the round-trip and
grammar theorems, and it is not empty if the molecule has an atom: the pipeline returns a string on it.
-/
namespace Tucan

/-- masses and radicals as the CTfile specification allows them: not negative, of a printable size -/
structure Mol.Conformant (m : Mol) : Prop where
  ok : m.Ok
  mass : ∀ a ∈ m.atoms, 0 ≤ a.mass ∧ (intRepr a.mass).length ≤ intMaxStrDigits
  rad : ∀ a ∈ m.atoms, 0 ≤ a.rad ∧ (intRepr a.rad).length ≤ intMaxStrDigits

theorem record_molAtom {m : Mol} (hm : m.Conformant) {a : MAtom} (ha : a ∈ m.atoms) (c : Str × Str × Str) :
    MolAtom (GFM.inv' (a.record c)) := by
  -- a stated value (`nzI`: not 0) that is not negative is positive
  have pos : ∀ {x v : Int}, nzI x = some v → 0 ≤ x ∧ (intRepr x).length ≤ intMaxStrDigits →
      0 < v ∧ (intRepr v).length ≤ intMaxStrDigits := fun hv ⟨h1, h2⟩ => by
    obtain ⟨rfl, hne⟩ := Agree.nzI_some hv
    exact ⟨Int.lt_iff_le_and_ne.2 ⟨h1, hne.symm⟩, h2⟩
  refine ⟨a.record_chem c (hm.ok.sym a ha), ⟨_, rfl⟩, fun v hv => ?_, fun v hv => pos hv (hm.rad a ha)⟩
  simp only [GFM.inv', MAtom.record] at hv
  rcases LineM.detect_snd a.sym with h | h | h
  · rw [h, if_pos rfl] at hv
    exact pos hv (hm.mass a ha)
  · rw [h] at hv
    cases hv
    decide +kernel
  · rw [h] at hv
    cases hv
    decide +kernel

theorem IsGraphOf.molAtoms {g : Graph} {m : Mol} {c : List (Str × Str × Str)} (hg : IsGraphOf g m c)
    (hm : m.Conformant) (hc : c.length = m.atoms.length) : g.MolAtoms := by
  intro a ha x hx
  obtain ⟨ma, hma, co, rfl⟩ := hg.attr_of_mem hc ha hx
  exact record_molAtom hm hma co

/-- the hypotheses the round-trip and layout theorems (`pipeline_roundtrip`, `emitted_layout`) ask of a graph -/
theorem IsGraphOf.roundtrip_domain {g : Graph} {m : Mol} {c : List (Str × Str × Str)} (hg : IsGraphOf g m c)
    (hm : m.Conformant) (hc : c.length = m.atoms.length)
    (hsize : (natRepr (m.atoms.length + 1)).length ≤ intMaxStrDigits) :
    g.WF ∧ g.Simple ∧ g.MolAtoms ∧ (natRepr (g.numberOfNodes + 1)).length ≤ intMaxStrDigits :=
  -- (`rw`, not `▸`: its unifier unfolds `natRepr`)
  ⟨hg.wf, hg.simple, hg.molAtoms hm hc, by rw [hg.numberOfNodes]; exact hsize⟩

theorem isGraphOf_pipeline_total (order : Graph → List Nat) (hperm : ∀ r : Graph, r.WF → (order r).Perm r.labels)
    {g : Graph} {m : Mol} {c : List (Str × Str × Str)} (hc : c.length = m.atoms.length)
    (hm : m.Ok) (hne : m.atoms ≠ []) (hg : IsGraphOf g m c) : ∃ s, tucanOf order g = .ok s := by
  refine pipeline_total order hperm g hg.wf hg.simple ?_ (hg.chem hm hc).z_inv_isSome
  rw [hg.labels]
  exact fun h => hne (List.length_eq_zero_iff.1 (List.range_eq_nil.1 h))

end Tucan
