import TucanProofs.Lemmas.Basics.PyM
import TucanProofs.Lemmas.NxRelabel
/-!
# S2 — one partition step is equivariant under relabelling in any listing order

The class a step gives an atom is the rank of its attribute sequence in `sorted(set(seqs))`.  The rank depends only on
the *multiset* of sequences and is injective and strictly monotone on its members; sequences are carried along by
every `Iso` that preserves the key, hence so are classes.

`partition_spec` and `partition_equivariant` take the two facts about the networkx container that they use (`copy`,
`set_node_attributes`) as the hypotheses `CopySpec` / `MapAttrsSpec`; both hold (`copySpec`, `mapAttrsSpec`).
-/
namespace Tucan

/-- `sorted(set(seqs))` -/
def uniqSorted (all : List Seq) : List Seq := dedupAdj (sortS all)

/-- the partition number of a sequence: its index in `sorted(set(seqs))` -/
def rankIn (all : List Seq) (s : Seq) : Nat := (indexOf? s (uniqSorted all)).getD 0

theorem rankIn_perm {all all' : List Seq} (h : all.Perm all') : rankIn all = rankIn all' := by
  funext s; unfold rankIn uniqSorted; rw [sortS_perm_eq h]

theorem mem_uniqSorted (all : List Seq) (s : Seq) : s ∈ uniqSorted all ↔ s ∈ all := by
  unfold uniqSorted sortS
  rw [mem_dedupAdj, List.mem_mergeSort]

theorem uniqSorted_strict (all : List Seq) : (uniqSorted all).Pairwise (fun a b => a < b) :=
  dedupAdj_sort_strict all

theorem uniqSorted_nodup (all : List Seq) : (uniqSorted all).Nodup :=
  leS_totalLE.dedupAdj_sort_nodup all

theorem getElem?_rankIn {all : List Seq} {s : Seq} (h : s ∈ all) : (uniqSorted all)[rankIn all s]? = some s := by
  obtain ⟨i, hi⟩ := List.getElem?_of_mem ((mem_uniqSorted all s).mpr h)
  simpa [rankIn, (indexOf?_eq_some_iff (uniqSorted_nodup all)).2 hi] using hi

theorem rankIn_lt {all : List Seq} {s : Seq} (h : s ∈ all) : rankIn all s < (uniqSorted all).length :=
  (List.getElem?_eq_some_iff.mp (getElem?_rankIn h)).1

theorem rankIn_inj {all : List Seq} {s t : Seq} (hs : s ∈ all) (ht : t ∈ all)
    (h : rankIn all s = rankIn all t) : s = t :=
  Option.some.inj ((getElem?_rankIn hs).symm.trans (h ▸ getElem?_rankIn ht))

theorem rankIn_surj {all : List Seq} {k : Nat} (hk : k < (uniqSorted all).length) :
    ∃ s ∈ all, rankIn all s = k := by
  refine ⟨(uniqSorted all)[k], (mem_uniqSorted all _).mp (List.getElem_mem hk), ?_⟩
  have := (indexOf?_eq_some_iff (uniqSorted_nodup all)).2 (List.getElem?_eq_getElem hk)
  simp [rankIn, this]

theorem rankIn_lt_of_lt {all : List Seq} {s t : Seq} (hs : s ∈ all) (ht : t ∈ all) (h : s < t) :
    rankIn all s < rankIn all t := by
  obtain ⟨hi, e1⟩ := List.getElem?_eq_some_iff.mp (getElem?_rankIn hs)
  obtain ⟨hj, e2⟩ := List.getElem?_eq_some_iff.mp (getElem?_rankIn ht)
  refine Nat.lt_of_not_le fun hle => ?_
  rcases Nat.lt_or_eq_of_le hle with hgt | heq
  · have := List.pairwise_iff_getElem.mp (uniqSorted_strict all) _ _ hj hi hgt
    rw [e1, e2] at this
    exact List.lt_asymm this h
  · rw [rankIn_inj ht hs heq] at h
    exact List.lt_irrefl s h

def CopySpec : Prop := ∀ g : Graph, g.WF → g.Simple →
  Relabel id g g.copy ∧ g.copy.WF ∧ g.copy.Simple ∧ g.copy.labels = g.labels

def MapAttrsSpec : Prop := ∀ (g : Graph) (F : Nat → Atom → Atom),
  (g.mapAttrs F).labels = g.labels ∧
  (∀ a, (g.mapAttrs F).nbrsD a = g.nbrsD a) ∧
  (∀ a, (g.mapAttrs F).attrs? a = (g.attrs? a).map (F a)) ∧
  (g.WF → (g.mapAttrs F).WF) ∧ (g.Simple → (g.mapAttrs F).Simple)

theorem copySpec : CopySpec := fun g hw hs =>
  let ⟨rel, hl⟩ := g.copy_spec hw
  ⟨rel, rel.wf hw, rel.simple hw hs, hl⟩
theorem mapAttrsSpec : MapAttrsSpec := fun g F =>
  ⟨g.labels_mapAttrs F, g.nbrsD_mapAttrs F, g.attrs?_mapAttrs F, fun hw => hw.mapAttrs F, fun hs => hs.mapAttrs F⟩

/-- `m.nodes[a][attribute]`, `[]` when the node or the key is missing -/
def keyD (g : Graph) (attr : AttrName) (a : Nat) : Key := ((g.attrs? a).bind (·.key attr)).getD []

/-- `attribute_sequence(m, a, attribute)` as a total function -/
def seqOf (g : Graph) (attr : AttrName) (a : Nat) : Seq :=
  keyD g attr a :: sortKDesc ((g.nbrs a).map (keyD g attr))

def HasKey (g : Graph) (attr : AttrName) (b : Nat) : Prop := ((g.attrs? b).bind (·.key attr)).isSome

theorem HasKey.of_attrs {g : Graph} {attr : AttrName} {b : Nat} {x : Atom} (hx : g.attrs? b = some x)
    (hk : (x.key attr).isSome) : HasKey g attr b := by
  rwa [HasKey, hx]

theorem HasKey.attrs {g : Graph} {attr : AttrName} {b : Nat} (h : HasKey g attr b) : (g.attrs? b).isSome :=
  Option.isSome_of_isSome_bind h

theorem HasKey.forall_nbrs {g : Graph} {attr : AttrName} (hw : g.WF) (h : ∀ b ∈ g.labels, HasKey g attr b) :
    ∀ a ∈ g.labels, HasKey g attr a ∧ ∀ n ∈ g.nbrs a, HasKey g attr n :=
  fun a ha => ⟨h a ha, fun n hn => h n (Graph.Adj.mem_right hn hw)⟩

/-- `m.nodes[b][attribute]`, as `PyM.bind_eq_ok` presents it -/
theorem key_eq_ok {g : Graph} {attr : AttrName} {b : Nat} {κ : Key} :
    (∃ x, g.attrs b = .ok x ∧ (x.key attr).elim (.error .keyError) .ok = (.ok κ : PyM Key)) ↔
      HasKey g attr b ∧ κ = keyD g attr b := by
  simp only [Graph.attrs_eq_ok, HasKey, keyD]
  cases g.attrs? b with
  | none => exact ⟨fun ⟨_, h, _⟩ => (nomatch h), fun h => (nomatch h.1)⟩
  | some x =>
    simp only [Option.some.injEq, exists_eq_left', Option.bind_some]
    cases x.key attr with
    | none => exact ⟨fun h => (nomatch h), fun h => (nomatch h.1)⟩
    | some k => exact ⟨fun h => ⟨rfl, (Except.ok.inj h).symm⟩, fun h => h.2 ▸ rfl⟩

theorem attributeSequence_eq_ok {g : Graph} {a : Nat} {attr : AttrName} {s : Seq} :
    attributeSequence g a attr = .ok s ↔
      (HasKey g attr a ∧ ∀ n ∈ g.nbrs a, HasKey g attr n) ∧ s = seqOf g attr a := by
  have hnbr := fun ns nk => PyM.mapM_eq_ok_iff (l := ns) (r := nk) fun n _ κ =>
    (PyM.bind_eq_ok.trans (key_eq_ok (g := g) (attr := attr) (b := n) (κ := κ)))
  simp only [attributeSequence, PyM.bind_eq_ok, Graph.neighbors_eq_ok]
  constructor
  · rintro ⟨x, hx, κ, hκ, ns, ⟨_, rfl⟩, nk, hnk, h⟩
    obtain ⟨hown, rfl⟩ := key_eq_ok.mp ⟨x, hx, hκ⟩
    obtain ⟨hn, rfl⟩ := (hnbr _ _).mp hnk
    exact ⟨⟨hown, hn⟩, (Except.ok.inj h).symm⟩
  · rintro ⟨⟨hown, hn⟩, rfl⟩
    obtain ⟨x, hx, hκ⟩ := key_eq_ok.mpr ⟨hown, rfl⟩
    exact ⟨x, hx, _, hκ, _, ⟨hown.attrs, rfl⟩, _, (hnbr _ _).mpr ⟨hn, rfl⟩, rfl⟩

/-- the class a node receives: the rank of its sequence among all sequences of the graph -/
def classOf (g : Graph) (attr : AttrName) (a : Nat) : Nat :=
  rankIn (g.labels.map (seqOf g attr)) (seqOf g attr a)

theorem ranksOf_map_seqOf (g : Graph) (attr : AttrName) :
    ranksOf (g.labels.map (seqOf g attr)) = g.labels.map (classOf g attr) :=
  List.map_map

/-- the number of classes a partition step produces -/
def classCount (g : Graph) (attr : AttrName) : Nat := (uniqSorted (g.labels.map (seqOf g attr))).length

theorem classOf_lt_classCount {g : Graph} {attr : AttrName} {a : Nat} (ha : a ∈ g.labels) :
    classOf g attr a < classCount g attr :=
  rankIn_lt (List.mem_map_of_mem ha)

theorem exists_classOf_eq {g : Graph} {attr : AttrName} {k : Nat} (hk : k < classCount g attr) :
    ∃ a ∈ g.labels, classOf g attr a = k := by
  obtain ⟨s, hs, hr⟩ := rankIn_surj hk
  obtain ⟨a, ha, rfl⟩ := List.mem_map.mp hs
  exact ⟨a, ha, hr⟩

theorem classOf_inj {g : Graph} {attr : AttrName} {a b : Nat} (ha : a ∈ g.labels) (hb : b ∈ g.labels)
    (h : classOf g attr a = classOf g attr b) : seqOf g attr a = seqOf g attr b :=
  rankIn_inj (List.mem_map_of_mem ha) (List.mem_map_of_mem hb) h

theorem classOf_lt_of_lt {g : Graph} {attr : AttrName} {a b : Nat} (ha : a ∈ g.labels) (hb : b ∈ g.labels)
    (h : seqOf g attr a < seqOf g attr b) : classOf g attr a < classOf g attr b :=
  rankIn_lt_of_lt (List.mem_map_of_mem ha) (List.mem_map_of_mem hb) h

theorem classCount_le_nodes (g : Graph) (attr : AttrName) : classCount g attr ≤ g.numberOfNodes := by
  have := (uniqSorted_nodup (g.labels.map (seqOf g attr))).length_le_of_subset
    (fun s hs => (mem_uniqSorted _ s).mp hs)
  rwa [List.length_map, g.length_labels] at this

/-- the attribute update of `partition_molecule_by_attribute` -/
def setPart (assoc : List (Nat × Nat)) (a : Nat) (atm : Atom) : Atom :=
  match alookup a assoc with
  | some p => { atm with part := some (p : Int) }
  | none => atm

theorem partition_eq_ok {g : Graph} {attr : AttrName} {h : Graph} :
    partitionMoleculeByAttribute g attr = .ok h ↔
      (∀ a ∈ g.labels, HasKey g attr a ∧ ∀ n ∈ g.nbrs a, HasKey g attr n) ∧
      h = g.copy.mapAttrs (setPart (g.copy.labels.zip (g.labels.map (classOf g attr)))) := by
  -- the definition with the update named: matched against the `match` in the model once, not in each direction
  have e : partitionMoleculeByAttribute g attr = (g.labels.mapM fun a => attributeSequence g a attr) >>= fun seqs =>
      .ok (g.copy.mapAttrs (setPart (g.copy.labels.zip (ranksOf seqs)))) := rfl
  rw [← ranksOf_map_seqOf, e, PyM.bind_eq_ok]
  simp only [PyM.mapM_eq_ok_iff fun _ _ _ => attributeSequence_eq_ok]
  constructor
  · rintro ⟨_, ⟨hk, rfl⟩, h⟩
    exact ⟨hk, (Except.ok.inj h).symm⟩
  · rintro ⟨hk, rfl⟩
    exact ⟨_, ⟨hk, rfl⟩, rfl⟩

theorem partition_total_of_hasKey {g : Graph} {attr : AttrName} (hw : g.WF) (h : ∀ b ∈ g.labels, HasKey g attr b) :
    ∃ p, partitionMoleculeByAttribute g attr = .ok p :=
  ⟨_, partition_eq_ok.mpr ⟨HasKey.forall_nbrs hw h, rfl⟩⟩

/-- What `partition_molecule_by_attribute` returns: the same graph (nodes in the same order, every
attribute kept, neighbour lists possibly reordered by the copy) with `partition` set to the rank of the
node's attribute sequence. -/
theorem partition_spec (hc : CopySpec) (hm : MapAttrsSpec) (g : Graph) (attr : AttrName) (hw : g.WF)
    (hs : g.Simple) (h : Graph) (hp : partitionMoleculeByAttribute g attr = .ok h) :
    h.labels = g.labels ∧ h.WF ∧ h.Simple ∧
    (∀ a ∈ g.labels, h.attrs? a = (g.attrs? a).map fun x => { x with part := some (classOf g attr a : Int) }) ∧
    (∀ a ∈ g.labels, (h.nbrsD a).Perm (g.nbrsD a)) := by
  obtain ⟨_, rfl⟩ := partition_eq_ok.mp hp
  obtain ⟨hrel, hcw, hcs, hcl⟩ := hc g hw hs
  obtain ⟨hml, hmn, hma, hmw, hms⟩ := hm g.copy (setPart (g.copy.labels.zip (g.labels.map (classOf g attr))))
  refine ⟨by rw [hml, hcl], hmw hcw, hms hcs, ?_, ?_⟩
  · intro a ha
    have h1 : g.copy.attrs? a = g.attrs? a := by simpa using hrel.attrs a ha
    rw [hma a, h1, hcl]
    unfold setPart
    rw [alookup_zip_map (classOf g attr) hw.nodup ha]
  · intro a ha
    rw [hmn a]
    exact hrel.nbrsD_id a

section Equivariance
variable {R : Atom → Atom → Prop} {f : Nat → Nat} {g g' : Graph} {attr : AttrName}

theorem seqOf_iso (hR : ∀ x y, R x y → x.key attr = y.key attr) (iso : Iso R f g g') (hw : g.WF)
    {a : Nat} (ha : a ∈ g.labels) : seqOf g' attr (f a) = seqOf g attr a := by
  have hk : ∀ b ∈ g.labels, keyD g' attr (f b) = keyD g attr b := fun b hb =>
    congrArg (·.getD []) (iso.bind_attrs hR hb)
  unfold seqOf
  rw [hk a ha, sortKDesc_perm_eq ((iso.nbrs a ha).map _), List.map_map]
  congr 2
  exact List.map_congr_left fun b hb => hk b (Graph.Adj.mem_right hb hw)

theorem classOf_iso (hR : ∀ x y, R x y → x.key attr = y.key attr) (iso : Iso R f g g') (hw : g.WF)
    {a : Nat} (ha : a ∈ g.labels) : classOf g' attr (f a) = classOf g attr a := by
  unfold classOf
  rw [rankIn_perm (iso.map_perm fun _ hb => seqOf_iso hR iso hw hb), seqOf_iso hR iso hw ha]

end Equivariance

/-- **S2.** One partition step commutes with every relabelling-in-any-listing that preserves identity
and the key: the two results are again related, now including the partition class. -/
theorem partition_equivariant (hc : CopySpec) (hm : MapAttrsSpec) {R : Atom → Atom → Prop} {f : Nat → Nat}
    {g g' h h' : Graph} {attr : AttrName}
    (hR : ∀ x y, R x y → SameIdent x y ∧ x.key attr = y.key attr) (iso : Iso R f g g')
    (hw : g.WF) (hs : g.Simple) (hw' : g'.WF) (hs' : g'.Simple)
    (hp : partitionMoleculeByAttribute g attr = .ok h) (hp' : partitionMoleculeByAttribute g' attr = .ok h') :
    Iso SameIdentPart f h h' := by
  obtain ⟨hl, _, _, ha, hn⟩ := partition_spec hc hm g attr hw hs h hp
  obtain ⟨hl', _, _, ha', hn'⟩ := partition_spec hc hm g' attr hw' hs' h' hp'
  refine ⟨by rw [hl, hl']; exact iso.labels, by rw [hl]; exact iso.inj, ?_, ?_⟩
  · intro a hah
    rw [hl] at hah
    obtain ⟨x, y, hx, hy, hxy⟩ := iso.attrs a hah
    refine ⟨_, _, by rw [ha a hah, hx]; rfl, by rw [ha' (f a) (iso.mem_labels hah), hy]; rfl, ?_⟩
    rw [classOf_iso (fun x y h => (hR x y h).2) iso hw hah]
    exact ⟨(hR x y hxy).1, rfl⟩
  · intro a hah
    rw [hl] at hah
    exact (nbrs_perm_of_nbrsD_perm (hn' (f a) (iso.mem_labels hah))).trans
      ((iso.nbrs a hah).trans ((nbrs_perm_of_nbrsD_perm (hn a hah)).symm.map f))

end Tucan
