import TucanProofs.Lemmas.NxRelabel
/-!
# `permute_molecule`

`permute_molecule` is the helper that produces "another drawing" of a molecule.  When its retry loop
enforces a change (`|E| > 1 and 2|E| ≠ n(n-1)`), the result's adjacency differs from the argument's; a graph with two
unbonded atoms meets the counting test because its bonds and that pair are distinct among the `n(n-1)/2` pairs.
-/
namespace Tucan

/-- the edge set, as the set of unordered adjacent pairs of labels -/
def Graph.SameEdgeSet (g h : Graph) : Prop := ∀ a b, g.Adj a b ↔ h.Adj a b

/-- **One shuffle.**  `_permute_molecule` with a shuffle that is a permutation of the labels returns the
argument renamed by a bijection of its label set, with the nodes listed in label order. -/
theorem permuteOnce_spec {g : Graph} (hw : g.WF) {shuffled : List Nat} (hp : shuffled.Perm g.labels) :
    Relabel (Graph.mapGet (shuffled.zip g.labels)) g (permuteOnce g shuffled) ∧
    (permuteOnce g shuffled).labels = sortN g.labels := by
  -- `dict(zip(shuffled, labels))` has the labels as keys and as values
  have hvals : (shuffled.zip g.labels).map (·.2) = g.labels := List.map_snd_zip (Nat.le_of_eq hp.length_eq.symm)
  obtain ⟨rel, -, rl⟩ := relabel_dict_spec hw (fl := shuffled.zip g.labels)
    (by rwa [List.map_fst_zip (Nat.le_of_eq hp.length_eq)]) (by rw [hvals]; exact hw.nodup)
  rw [hvals] at rl
  obtain ⟨rel2, sl⟩ := sortMoleculeByLabel_spec (rel.wf hw)
  exact ⟨rel.comp_id rel2, sl.trans (sortN_perm_eq rl)⟩

theorem permuteMolecule.retry_eq_ok (g : Graph) {r : Graph} (rest : List (List Nat)) (p : Graph) :
    permuteMolecule.retry g p rest = .ok r ↔
      (p :: rest.map (permuteOnce g)).find? (fun q => !sameEdgeSet g q) = some r := by
  induction rest generalizing p with
  | nil =>
    rw [permuteMolecule.retry, List.find?_cons]
    cases sameEdgeSet g p <;> simp
  | cons s rest ih =>
    rw [permuteMolecule.retry, List.find?_cons]
    cases sameEdgeSet g p
    · simp
    · exact ih _

theorem permuteMolecule_eq_ok {g : Graph} {shuffles : List (List Nat)} {r : Graph} :
    permuteMolecule g shuffles = .ok r ↔
      (shuffles.map (permuteOnce g)).find? (fun p =>
        !((g.numberOfEdges > 1 && 2 * g.numberOfEdges != g.numberOfNodes * (g.numberOfNodes - 1)) &&
          sameEdgeSet g p)) = some r := by
  cases shuffles with
  | nil => exact ⟨nofun, nofun⟩
  | cons s rest =>
    rw [permuteMolecule]
    split
    · next henf =>
      rw [permuteMolecule.retry_eq_ok, henf]
      simp only [Bool.true_and, List.map_cons]
    · next henf =>
      rw [Bool.not_eq_true] at henf
      rw [henf]
      simp only [Except.ok.injEq, Bool.false_and, Bool.not_false, List.map_cons, List.find?_cons_of_pos,
        Option.some.injEq]

theorem permuteMolecule_mem (g : Graph) (shuffles : List (List Nat)) (r : Graph)
    (h : permuteMolecule g shuffles = .ok r) : ∃ s ∈ shuffles, r = permuteOnce g s := by
  obtain ⟨s, hs, e⟩ := List.mem_map.1 (List.mem_of_find?_eq_some (permuteMolecule_eq_ok.1 h))
  exact ⟨s, hs, e.symm⟩

theorem permuteMolecule_enforced (g : Graph) (shuffles : List (List Nat)) (r : Graph)
    (henf : (g.numberOfEdges > 1 && 2 * g.numberOfEdges != g.numberOfNodes * (g.numberOfNodes - 1)) = true)
    (h : permuteMolecule g shuffles = .ok r) : sameEdgeSet g r = false := by
  simpa [henf] using List.find?_some (permuteMolecule_eq_ok.1 h)

theorem not_sameEdgeSet_spec (g r : Graph) (hw : g.WF) (hw' : r.WF)
    (hcount : r.numberOfEdges = g.numberOfEdges) (h : sameEdgeSet g r = false) :
    ∃ a b, g.Adj a b ∧ ¬ r.Adj a b := by
  unfold sameEdgeSet at h
  rw [hcount] at h
  simp only [beq_self_eq_true, Bool.true_and] at h
  rw [List.all_eq_false] at h
  obtain ⟨⟨u, v, d⟩, he, hx⟩ := h
  simp only [Bool.not_eq_true, Option.isSome_eq_false_iff, Option.isNone_iff_eq_none] at hx
  refine ⟨u, v, NxE.adj_iff.2 ⟨d, Graph.mem_edges hw he⟩, ?_⟩
  intro hadj
  obtain ⟨d', hd'⟩ := NxE.adj_iff.1 hadj
  rw [NxE.edgeData?_eq, (alookup_eq_some_iff (hw'.nodupD u)).mpr hd'] at hx
  cases hx

/-- **When a change is enforced, the adjacency relation changes**: some pair of labels is bonded in the argument
and not in the result (and, the counts being equal, some other pair the other way round). -/
theorem permute_edges_differ (g : Graph) (hw : g.WF) (hs : g.Simple) (shuffles : List (List Nat))
    (hall : ∀ s ∈ shuffles, s.Perm g.labels) (r : Graph) (h : permuteMolecule g shuffles = .ok r)
    (h2 : 2 ≤ g.numberOfEdges) (hinc : 2 * g.numberOfEdges ≠ g.numberOfNodes * (g.numberOfNodes - 1)) :
    (∃ a b, g.Adj a b ∧ ¬ r.Adj a b) ∧ ¬ (∀ a b, g.Adj a b ↔ r.Adj a b) := by
  have henf : (g.numberOfEdges > 1 && 2 * g.numberOfEdges != g.numberOfNodes * (g.numberOfNodes - 1)) = true := by
    simp only [Bool.and_eq_true, decide_eq_true_eq, bne_iff_ne, ne_eq]
    exact ⟨by omega, hinc⟩
  have hdiff := permuteMolecule_enforced g shuffles r henf h
  obtain ⟨s, hs', rfl⟩ := permuteMolecule_mem g shuffles r h
  have rel := (permuteOnce_spec hw (hall s hs')).1
  have hcount := rel.toIso.numberOfEdges hw hs (rel.wf hw) (rel.simple hw hs)
  obtain ⟨a, b, hab, hnab⟩ := not_sameEdgeSet_spec g _ hw (rel.wf hw) hcount hdiff
  exact ⟨⟨a, b, hab, hnab⟩, fun hall' => hnab ((hall' a b).1 hab)⟩

/-- all pairs `(x, y)` with `x` listed before `y` -/
def pairsLt : List Nat → List (Nat × Nat)
  | [] => []
  | x :: t => t.map (fun y => (x, y)) ++ pairsLt t

theorem pairsLt_length (l : List Nat) : 2 * (pairsLt l).length + l.length = l.length * l.length := by
  induction l with
  | nil => rfl
  | cons x t ih =>
    rw [pairsLt, List.length_append, List.length_map, List.length_cons, Nat.add_mul, Nat.mul_add t.length, Nat.one_mul,
      ← ih]
    omega

theorem mem_pairsLt {a b : Nat} {l : List Nat} (hp : l.Pairwise (· < ·)) (ha : a ∈ l) (hb : b ∈ l) (hab : a < b) :
    (a, b) ∈ pairsLt l := by
  induction l with
  | nil => cases ha
  | cons x t ih =>
    rw [List.pairwise_cons] at hp
    rw [pairsLt, List.mem_append, List.mem_map]
    rcases List.mem_cons.1 ha with rfl | ha'
    · rcases List.mem_cons.1 hb with rfl | hb'
      · exact absurd hab (Nat.lt_irrefl _)
      · exact Or.inl ⟨b, hb', rfl⟩
    · rcases List.mem_cons.1 hb with rfl | hb'
      · exact absurd (hp.1 a ha') (Nat.lt_asymm hab)
      · exact Or.inr (ih hp.2 ha' hb')

theorem incomplete_count (g : Graph) (hw : g.WF) (hs : g.Simple)
    (hnon : ∃ a ∈ g.labels, ∃ b ∈ g.labels, a ≠ b ∧ ¬ g.Adj a b) :
    2 * g.numberOfEdges < g.numberOfNodes * (g.numberOfNodes - 1) := by
  obtain ⟨a, ha, b, hb, hne, hnadj⟩ := hnon
  obtain ⟨a, b, ha, hb, hlt, hnadj⟩ : ∃ a b, a ∈ g.labels ∧ b ∈ g.labels ∧ a < b ∧ ¬ g.Adj a b :=
    (Nat.lt_or_gt_of_ne hne).elim (fun h => ⟨a, b, ha, hb, h, hnadj⟩)
      fun h => ⟨b, a, hb, ha, h, fun hc => hnadj (hc.symm hw)⟩
  -- the bonds and `(a, b)` are distinct pairs `x < y` of labels, of which there are `n·(n-1)/2`
  have hin : ∀ x y, x ∈ g.labels → y ∈ g.labels → x < y → (x, y) ∈ pairsLt (sortN g.labels) :=
    fun x y hx hy => mem_pairsLt (sortN_strict hw.nodup) (List.mem_mergeSort.2 hx) (List.mem_mergeSort.2 hy)
  have hsub : ((a, b) :: sortedEdges g) ⊆ pairsLt (sortN g.labels) := by
    rintro ⟨x, y⟩ hxy
    rcases List.mem_cons.1 hxy with he | hm
    · cases he
      exact hin _ _ ha hb hlt
    · obtain ⟨hxy', hadj⟩ := (sortedEdges_mem g hw hs x y).1 hm
      exact hin _ _ hadj.mem_left (hadj.mem_right hw) hxy'
  have hnd : ((a, b) :: sortedEdges g).Nodup :=
    List.nodup_cons.2 ⟨fun hc => hnadj ((sortedEdges_mem g hw hs a b).1 hc).2, sortedEdges_nodup g hw⟩
  have hle := hnd.length_le_of_subset hsub
  have hcnt := pairsLt_length (sortN g.labels)
  rw [List.length_cons, sortedEdges_length] at hle
  rw [show (sortN g.labels).length = g.numberOfNodes from (List.length_mergeSort _).trans g.length_labels] at hcnt
  rw [Nat.mul_sub_one]
  omega

end Tucan
