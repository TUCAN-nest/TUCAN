import TucanProofs.Lemmas.Chain
import TucanProofs.Lemmas.Pipeline
/-!
# C09 — written molfiles read back as the same molecule, at any line length

About the writer model (`graphToMolfileLines`; `addV30Line`, `atomLine` for its pieces) and the V3000 reader model on
what it writes (`graphFromMolfileText`; `concatLinesWithDash`, `tokenizeLine`, `parseAtomAttributesV3000` for the
pieces).  Coordinates are opaque tokens of
arbitrary length (`f"{x:.6f}"` is not modelled), which is exactly what forces wraps at every position.
-/
namespace Tucan

/-- **C09, the whole file.**  For a graph with consecutive labels whose attributes are in the format's
ranges (non-zero charge within ±15, radical 1–3, mass > 0, blank-free float coordinate tokens of ANY
length, any bond type, any atom count and index width) the written molfile has no line longer than 79
characters (80 with the newline; the time-stamped header line aside), and reading it back returns the same
atoms in the same order with the same element, charge, radical, isotope mass and coordinate tokens, and
the same bonds with the same bond types (a missing bond type is written, and read back, as 1). -/
theorem C09_write_read (g : Graph) (hw : g.WF) (hs : g.Simple) (hlab : g.labels = List.range g.numberOfNodes)
    (hatoms : ∀ n ∈ g.nodes, WritableAtom n)
    (hbonds : ∀ n ∈ g.nodes, ∀ e ∈ n.nbrs, ∀ bt, e.2.btype = some bt → (intRepr bt).length ≤ intMaxStrDigits)
    (hsize : (natRepr (g.numberOfNodes + g.numberOfEdges + 1)).length ≤ intMaxStrDigits)
    (hdr : Str) (hh : GoodHeader hdr) :
    ∃ lines g', graphToMolfileLines g hdr = .ok lines ∧
      (∀ l ∈ lines, l.length ≤ 79 ∨ l = hdr) ∧
      graphFromMolfileText (joinLines lines) = .ok g' ∧
      g'.labels = g.labels ∧ g'.WF ∧ g'.Simple ∧
      (∀ n ∈ g.nodes, ∃ z, atomicNumberOf ((n.attrs.sym).getD []) = .ok z ∧
          g'.attrs? n.id = some (readBackAtom n.attrs z)) ∧
      (∀ i j bt, (j, ({ btype := some bt } : Bond)) ∈ g'.nbrsD i ↔
          ∃ d, (j, d) ∈ g.nbrsD i ∧ d.btype.getD 1 = bt) := by
  obtain ⟨lines, g', hwr, hlen, hrd, r⟩ :=
    write_read_gen g ⟨hw, hlab ▸ List.Perm.refl _, hatoms, hbonds, hsize⟩ hs hdr hh
  obtain ⟨hattrs, hnbrs⟩ := r.of_consecutive hw hlab
  exact ⟨lines, g', hwr, hlen, hrd, r.labels.trans hlab.symm, r.wf, r.simple, hattrs, hnbrs⟩

/-- **… for a graph listed in ANY order** (what `relabel_nodes` returns: canonical graphs in particular have the
labels `0 … n-1` listed in another order).  The atom lines carry `label + 1` in listing order, the reader
renumbers in file order: the graph read back is the written graph with its `i`-th listed node renamed `i` —
same element, charge, radical, mass, coordinate tokens on that node, and `i`, `j` bonded with type `bt` exactly
when the `i`-th and `j`-th listed nodes were. -/
theorem C09_write_read_any_listing (g : Graph) (hw : g.WF) (hs : g.Simple)
    (hlab : g.labels.Perm (List.range g.numberOfNodes))
    (hatoms : ∀ n ∈ g.nodes, WritableAtom n)
    (hbonds : ∀ n ∈ g.nodes, ∀ e ∈ n.nbrs, ∀ bt, e.2.btype = some bt → (intRepr bt).length ≤ intMaxStrDigits)
    (hsize : (natRepr (g.numberOfNodes + g.numberOfEdges + 1)).length ≤ intMaxStrDigits)
    (hdr : Str) (hh : GoodHeader hdr) :
    ∃ lines g', graphToMolfileLines g hdr = .ok lines ∧
      (∀ l ∈ lines, l.length ≤ 79 ∨ l = hdr) ∧
      graphFromMolfileText (joinLines lines) = .ok g' ∧
      g'.labels = List.range g.numberOfNodes ∧ g'.WF ∧ g'.Simple ∧
      (∀ i (hi : i < g.nodes.length), ∃ z, atomicNumberOf ((g.nodes[i].attrs.sym).getD []) = .ok z ∧
          g'.attrs? i = some (readBackAtom g.nodes[i].attrs z)) ∧
      (∀ i j (hi : i < g.nodes.length) (hj : j < g.nodes.length) (bt : Int),
          (j, ({ btype := some bt } : Bond)) ∈ g'.nbrsD i ↔
          ∃ d, (g.nodes[j].id, d) ∈ g.nbrsD g.nodes[i].id ∧ d.btype.getD 1 = bt) := by
  obtain ⟨lines, g', hwr, hlen, hrd, r⟩ := write_read_gen g ⟨hw, hlab, hatoms, hbonds, hsize⟩ hs hdr hh
  exact ⟨lines, g', hwr, hlen, hrd, r.labels, r.wf, r.simple, r.attrs, r.nbrs_typed⟩

/-- **No other bond appears**: every adjacency record of the graph read back has the form `{ btype := some bt }`
— so the bond conclusion of `C09_write_read` / `C09_write_read_any_listing`, which characterises the records of
that form, characterises all of them. -/
theorem C09_bond_records (g : Graph) (hw : g.WF) (hs : g.Simple)
    (hlab : g.labels.Perm (List.range g.numberOfNodes))
    (hatoms : ∀ n ∈ g.nodes, WritableAtom n)
    (hbonds : ∀ n ∈ g.nodes, ∀ e ∈ n.nbrs, ∀ bt, e.2.btype = some bt → (intRepr bt).length ≤ intMaxStrDigits)
    (hsize : (natRepr (g.numberOfNodes + g.numberOfEdges + 1)).length ≤ intMaxStrDigits)
    (hdr : Str) (hh : GoodHeader hdr) (lines : List Str) (g' : Graph)
    (hwr : graphToMolfileLines g hdr = .ok lines) (hrd : graphFromMolfileText (joinLines lines) = .ok g') :
    ∀ (i j : Nat) (d' : Bond), (j, d') ∈ g'.nbrsD i → ∃ bt : Int, d' = { btype := some bt } := by
  have r := ReadBack.of_read ⟨hw, hlab, hatoms, hbonds, hsize⟩ hs hh hwr hrd
  intro i j d' h
  have hi := NxE.mem_labels_of_mem_nbrsD h
  have hj := r.wf.closedD h
  rw [r.labels] at hi hj
  obtain ⟨d, -, hd⟩ := (r.nbrs i j (List.mem_range.1 hi) (List.mem_range.1 hj) d').1 h
  exact ⟨_, hd⟩

/-- **What the writer writes is a well-formed V3000 connection table**, independently of any reader: the written
lines are a V3000 file as `IsV3000File` — the hypothesis bundle of C07's specification theorem — defines one (four
header lines, `BEGIN CTAB`, a counts line carrying the numbers of atom and bond lines, `BEGIN ATOM`, one well-formed
atom line per atom, `END ATOM`, the bond block unless there is no bond, a tail ending in `M  END`; every logical line
wrapped with a trailing dash), with exactly the entries `writtenAtom n` per node in listing order (index = label + 1,
symbol, three coordinate tokens, `0`, then `CHG=` / `RAD=` / `MASS=` for the values present) and `writtenBond` per
reported edge (running number, type, the two atom indices); its fourth line ends in `V3000`; no line contains a line
break.  So every statement C07 proves about such files applies to the writer's output. -/
theorem C09_written_is_v3000_file (g : Graph) (hw : g.WF)
    (hlab : g.labels.Perm (List.range g.numberOfNodes))
    (hatoms : ∀ n ∈ g.nodes, WritableAtom n)
    (hbonds : ∀ n ∈ g.nodes, ∀ e ∈ n.nbrs, ∀ bt, e.2.btype = some bt → (intRepr bt).length ≤ intMaxStrDigits)
    (hsize : (natRepr (g.numberOfNodes + g.numberOfEdges + 1)).length ≤ intMaxStrDigits)
    (hdr : Str) (hh : GoodHeader hdr) (lines : List Str)
    (hwr : graphToMolfileLines g hdr = .ok lines) :
    IsV3000File lines (g.nodes.map writtenAtom) (g.edges.zipIdx.map writtenBond) ∧
    (∀ l3, lines[3]? = some l3 → EndsInWord l3 (cs "V3000")) ∧
    (∀ l ∈ lines, WR.NoBreak l) := by
  obtain ⟨f, hver⟩ := written_isV3000File ⟨hw, hlab, hatoms, hbonds, hsize⟩ hh hwr
  obtain rfl := Except.ok.inj ((WR.writer_shape g hdr hatoms).symm.trans hwr)
  exact ⟨f, hver, fun l hl => (WR.fileLines_ok hh (WR.logicalToks_rendered g hatoms) l hl).1⟩

/-- **… and C07's specification, applied to it, says what the reader returns**: the closed forms `atomDictOf` /
`bondDictOf` of the written entries (no star atom among them, every bond between two written atoms).  This is the
route by which `C09_write_read` and its companions get the reader's result for a written file: through the
format's specification, with no evaluation of the reader specific to the writer. -/
theorem C09_written_read_by_spec (g : Graph) (hw : g.WF)
    (hlab : g.labels.Perm (List.range g.numberOfNodes))
    (hatoms : ∀ n ∈ g.nodes, WritableAtom n)
    (hbonds : ∀ n ∈ g.nodes, ∀ e ∈ n.nbrs, ∀ bt, e.2.btype = some bt → (intRepr bt).length ≤ intMaxStrDigits)
    (hsize : (natRepr (g.numberOfNodes + g.numberOfEdges + 1)).length ≤ intMaxStrDigits)
    (hdr : Str) (hh : GoodHeader hdr) (lines : List Str)
    (hwr : graphToMolfileLines g hdr = .ok lines) :
    graphAttributesV3000 lines =
      .ok (atomDictOf (g.nodes.map writtenAtom), bondDictOf [] (g.edges.zipIdx.map writtenBond)) ∧
    starsOf (g.nodes.map writtenAtom) = [] ∧
    V3BondsOk (g.nodes.map writtenAtom) (g.edges.zipIdx.map writtenBond) := by
  obtain ⟨hA, hB⟩ := WR.written_entries g hatoms
  obtain ⟨-, hs, hb⟩ := V3BondsOk.of_entries hA (WR.atomDict_keys_nodup g hw) hB (WR.bondDict_keys g hw)
  exact ⟨hs ▸ (written_isV3000File ⟨hw, hlab, hatoms, hbonds, hsize⟩ hh hwr).1.reads hb, hs, hb⟩

/-- **The graph read back is the written molecule**: for a molecule graph listed in any order, writing and
reading back gives a graph related to it by `Iso SameIdent` (atom ↦ its listing position), hence with the same
TUCAN string. -/
theorem C09_write_read_same_string (O : CanonOracle) (g : Graph) (hw : g.WF) (hs : g.Simple)
    (hlab : g.labels.Perm (List.range g.numberOfNodes)) (hmol : g.MolAtoms)
    (hatoms : ∀ n ∈ g.nodes, WritableAtom n)
    (hbonds : ∀ n ∈ g.nodes, ∀ e ∈ n.nbrs, ∀ bt, e.2.btype = some bt → (intRepr bt).length ≤ intMaxStrDigits)
    (hsize : (natRepr (g.numberOfNodes + g.numberOfEdges + 1)).length ≤ intMaxStrDigits)
    (hdr : Str) (hh : GoodHeader hdr) (lines : List Str) (g' : Graph)
    (hwr : graphToMolfileLines g hdr = .ok lines) (hrd : graphFromMolfileText (joinLines lines) = .ok g')
    (s s' : Str) (h : tucanOf O.order g = .ok s) (h' : tucanOf O.order g' = .ok s') : s = s' := by
  obtain ⟨hw', hs', iso⟩ := write_read_iso g ⟨hw, hlab, hatoms, hbonds, hsize⟩ hs hmol hdr hh lines g' hwr hrd
  exact tucan_invariant O iso hmol.chem hw hs hw' hs' h h'

/-- **Consequently string → graph → molfile → graph → string returns the original TUCAN string**: start from
the string `s` of a molecule, parse it, write the parsed graph, read the file, run the pipeline on what was read
— the result is `s`.  (The parsed graph must be writable: radicals within the format's range 1–3.) -/
theorem C09_string_molfile_string (O : CanonOracle) (g0 : Graph) (hw0 : g0.WF) (hs0 : g0.Simple) (hmol0 : g0.MolAtoms)
    (hsize0 : (natRepr (g0.numberOfNodes + 1)).length ≤ intMaxStrDigits)
    (s : Str) (h0 : tucanOf O.order g0 = .ok s)
    (H : Graph) (hp : graphFromTucan s = .ok H)
    (hatoms : ∀ n ∈ H.nodes, WritableAtom n)
    (hbonds : ∀ n ∈ H.nodes, ∀ e ∈ n.nbrs, ∀ bt, e.2.btype = some bt → (intRepr bt).length ≤ intMaxStrDigits)
    (hsize : (natRepr (H.numberOfNodes + H.numberOfEdges + 1)).length ≤ intMaxStrDigits)
    (hdr : Str) (hh : GoodHeader hdr) (lines : List Str) (g' : Graph)
    (hwr : graphToMolfileLines H hdr = .ok lines) (hrd : graphFromMolfileText (joinLines lines) = .ok g')
    (s' : Str) (h' : tucanOf O.order g' = .ok s') : s' = s := by
  obtain ⟨τ, iso0, -, hlab, Hw, Hs, Hm⟩ := parsed_emitted O g0 hw0 hs0 hmol0 hsize0 s h0 H hp
  obtain ⟨hw', hs', iso⟩ := write_read_iso H ⟨Hw, hlab, hatoms, hbonds, hsize⟩ Hs Hm hdr hh lines g' hwr hrd
  exact (tucan_invariant O (iso0.trans @SameIdent.trans iso) hmol0.chem hw0 hs0 hw' hs'
    h0 h').symm

/-- **… with existence.**  Of the parsed graph only the radical range (a molfile cannot state a radical above 3)
and two width guards (bond-type numerals and the counts, CPython's integer-conversion limit) are assumed.  That
every atom of the parsed graph is writable, that writing returns, that reading the written file returns, that the
pipeline returns on what was read, and that it returns `s`, are conclusions. -/
theorem C09_string_molfile_string_total (O : CanonOracle) (g0 : Graph) (hw0 : g0.WF) (hs0 : g0.Simple)
    (hne0 : g0.labels ≠ []) (hmol0 : g0.MolAtoms)
    (hsize0 : (natRepr (g0.numberOfNodes + 1)).length ≤ intMaxStrDigits)
    (s : Str) (h0 : tucanOf O.order g0 = .ok s)
    (H : Graph) (hp : graphFromTucan s = .ok H)
    (hrad : ∀ n ∈ H.nodes, ∀ r, n.attrs.rad = some r → r ≤ 3)
    (hbonds : ∀ n ∈ H.nodes, ∀ e ∈ n.nbrs, ∀ bt, e.2.btype = some bt → (intRepr bt).length ≤ intMaxStrDigits)
    (hsize : (natRepr (H.numberOfNodes + H.numberOfEdges + 1)).length ≤ intMaxStrDigits)
    (hdr : Str) (hh : GoodHeader hdr) :
    (∀ n ∈ H.nodes, WritableAtom n) ∧
    ∃ lines g', graphToMolfileLines H hdr = .ok lines ∧ graphFromMolfileText (joinLines lines) = .ok g' ∧
      tucanOf O.order g' = .ok s := by
  obtain ⟨τ, iso0, -, hlab, Hw, Hs, Hm⟩ := parsed_emitted O g0 hw0 hs0 hmol0 hsize0 s h0 H hp
  have hatoms := ChainT.writable_parsed hp hrad
  obtain ⟨a, ha⟩ := List.exists_mem_of_ne_nil _ hne0
  obtain ⟨lines, g', s', hwr, hrd, h', hw', hs', iso⟩ := ChainT.write_read_string O ⟨Hw, hlab, hatoms, hbonds, hsize⟩ Hs Hm
    (List.ne_nil_of_mem (iso0.mem_labels ha)) hh
  obtain rfl := tucan_invariant O (iso0.trans @SameIdent.trans iso) hmol0.chem hw0 hs0 hw' hs' h0 h'
  exact ⟨hatoms, lines, g', hwr, hrd, h'⟩

/-- **No line is longer than 80 characters including the newline**, for logical lines of every length. -/
theorem C09_line_length (line : Str) : ∀ p ∈ addV30Line line, p.length ≤ 79 := addV30Line_length_le line

/-- every physical line carries the `M  V30 ` prefix -/
theorem C09_line_prefix (line : Str) : ∀ p ∈ addV30Line line, startsWith p v30Prefix = true := by
  obtain ⟨parts, last, -, h2, -, -⟩ := addV30Line_parts line
  intro p hp
  rw [h2, mem_physicalLines] at hp
  rcases hp with ⟨q, -, hp⟩ | hp
  · rw [hp, List.append_assoc]; exact v30Prefix_isPrefixOf _
  · rw [hp]; exact v30Prefix_isPrefixOf _

/-- **Splicing inverts wrapping, for every line length** (one, two or any number of wraps; wrap points
inside a coordinate, a keyword, before or after a blank or a minus sign): the physical lines of a logical
line that does not itself end in a dash splice back to `"M  V30 " ++ line`. -/
theorem C09_splice_wrap (line : Str) (rest : List Str) (h : endsWithChar (v30Prefix ++ line) '-' = false) :
    concatLinesWithDash (addV30Line line ++ rest) = expectedSplice (v30Prefix ++ line) rest := splice_wrap line rest h

/-- a whole block of wrapped lines followed by one more line (e.g. the atom block followed by `M  END`)
splices back to the prefixed logical lines -/
theorem C09_splice_block (ls : List Str) (h : ∀ l ∈ ls, endsWithChar (v30Prefix ++ l) '-' = false) (last : Str) :
    concatLinesWithDash ((ls.map addV30Line).flatten ++ [last]) = .ok (ls.map (v30Prefix ++ ·) ++ [last]) := by
  induction ls with
  | nil => simp [concatLinesWithDash]
  | cons l ls ih =>
    simp only [List.map_cons, List.flatten_cons, List.append_assoc]
    rw [splice_wrap l _ (h l (by simp)), expectedSplice_eq, ih fun x hx => h x (by simp [hx])]
    rfl

/-- **The atom line the writer produces is decoded to what was written**: symbol, atomic number, the three
coordinate tokens, and charge / radical / mass whenever they are in the format's ranges — and no other
keyword is picked up (no element symbol, index or coordinate token is mistaken for `CHG`, `MASS`, `RAD`). -/
theorem C09_atom_line_roundtrip (n : Node) (sym : Str) (hsym : n.attrs.sym = some sym) (hel : sym ∈ elementSyms)
    (hx : ∀ t ∈ [n.attrs.x.getD zeroCoord, n.attrs.y.getD zeroCoord, n.attrs.zc.getD zeroCoord],
      IsToken t ∧ pyFloatOk t = true)
    (hchg : ∀ c, n.attrs.chg = some c → c ≠ 0 ∧ -15 ≤ c ∧ c ≤ 15)
    (hrad : ∀ r, n.attrs.rad = some r → 0 < r ∧ r ≤ 3)
    (hmass : ∀ m, n.attrs.mass = some m → 0 < m ∧ (intRepr m).length ≤ intMaxStrDigits) :
    ∃ line z, atomLine n = .ok line ∧ atomicNumberOf sym = .ok z ∧
      (tokenizeLine (v30Prefix ++ line))[2]? = some (natRepr (n.id + 1)) ∧
      parseAtomAttributesV3000 (tokenizeLine (v30Prefix ++ line)) =
        .ok (some { sym := some sym, z := some z, part := some 0,
                    x := some (n.attrs.x.getD zeroCoord), y := some (n.attrs.y.getD zeroCoord),
                    zc := some (n.attrs.zc.getD zeroCoord),
                    chg := n.attrs.chg, rad := n.attrs.rad, mass := n.attrs.mass }) := by
  have h : PropsInRange n.attrs := ⟨hchg, hrad, hmass⟩
  have hps := WR.props_ok h
  obtain ⟨z, hz, hp⟩ := parseAtomAttributes_general (natRepr (n.id + 1)) sym _ _ _ ['0'] (writtenProps n.attrs)
    (V3L.natRepr_noKey _) (V3L.natRepr_noKey 0) hx hps (Or.inl hel)
  have htoks := V3L.tokenizeLine_v30_joinBlanks _ (WR.writtenAtom_tokens n hsym hel (fun t ht => (hx t ht).1) hps) 0 0 []
  rw [← joinSp_eq_joinBlanks] at htoks
  obtain ⟨v1, v2, v3⟩ := WR.props_read h
  rw [LineM.detect_elementSym hel] at hz hp
  refine ⟨_, z, WR.atomLine_eq n hsym h, hz, by rw [htoks]; rfl, ?_⟩
  rw [htoks]
  simp only [writtenAtom, AtomEntry.toks, hsym, Option.getD_some]
  refine hp.trans ?_
  rw [v1, v2, v3]
  simp

/-- index and count fields: `int(str(n)) = n` -/
theorem C09_int_roundtrip (n : Nat) (h : (natRepr n).length ≤ intMaxStrDigits) : pyInt (natRepr n) = .ok (n : Int) :=
  pyInt_natRepr n h

/-- non-vacuity: a line of 100 characters wraps once and splices back -/
example : (addV30Line (List.replicate 100 'x')).length = 2 ∧
    endsWithChar (v30Prefix ++ List.replicate 100 'x') '-' = false := by
  decide +kernel

/-- non-vacuity of `C09_write_read_any_listing` / `C09_write_read_same_string` / `C09_bond_records`: the graph of
`Examples.lean` (three atoms listed in the order 2, 0, 1, an isotope label, a charge, a double bond) and the
header `  TUCAN` meet every hypothesis -/
example : exGraph.WF ∧ exGraph.Simple ∧ exGraph.labels.Perm (List.range exGraph.numberOfNodes) ∧
    (∀ n ∈ exGraph.nodes, WritableAtom n) ∧
    (∀ n ∈ exGraph.nodes, ∀ e ∈ n.nbrs, ∀ bt, e.2.btype = some bt → (intRepr bt).length ≤ intMaxStrDigits) ∧
    (natRepr (exGraph.numberOfNodes + exGraph.numberOfEdges + 1)).length ≤ intMaxStrDigits ∧
    GoodHeader "  TUCAN".toList :=
  ⟨exGraph_wf, exGraph_simple, exGraph_writable⟩

end Tucan
