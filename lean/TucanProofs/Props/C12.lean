import TucanProofs.Lemmas.Pipeline
import TucanProofs.Examples
/-!
# C12 — canonicalization only renames atoms; nothing is lost, added or mutated

Model: `canonicalizeWith g order` (`canonicalize_molecule` with igraph's answer as a parameter) and
`serializeMolecule` (which returns the string together with the post-state of its argument).
The model is value-based: an operation cannot change its argument except through the post-state it
returns explicitly; that the real code does not alias or mutate beyond that is checked by the harness
on every run (argument snapshots before/after, identity of attribute dictionaries, repeated calls).
-/
namespace Tucan

/-- **Canonicalization is a renaming.**  For any oracle that returns a permutation of the vertices
(checked on every real call), the canonical graph is the input under an injective renaming `σ` of its
atoms onto `0 … n-1`: every atom keeps all of its attributes (only `partition` is set), every bond keeps
its endpoints and its bond record, and no atom or bond appears or disappears. -/
theorem C12_canonicalize_renames (order : Graph → List Nat)
    (hperm : ∀ r : Graph, r.WF → (order r).Perm r.labels)
    (g c r : Graph) (k : Nat) (hw : g.WF) (hs : g.Simple)
    (h : canonicalizeWith g order = .ok (c, r, k)) :
    ∃ σ : Nat → Nat,
      (∀ a ∈ g.labels, ∀ b ∈ g.labels, σ a = σ b → a = b) ∧
      c.labels.Perm (List.range g.numberOfNodes) ∧
      (∀ a ∈ g.labels, ∃ x p, g.attrs? a = some x ∧ c.attrs? (σ a) = some { x with part := p }) ∧
      (∀ a ∈ g.labels, (c.nbrsD (σ a)).Perm ((g.nbrsD a).map fun e => (σ e.1, e.2))) ∧
      c.WF ∧ c.Simple := by
  obtain ⟨σ, hσ⟩ := canonicalize_renames hperm hw hs h
  exact ⟨σ, hσ.inj, hσ.range, fun _ => hσ.record, hσ.nbrs, hσ.wf, hσ.simple⟩

/-- **The class is set, and carried.**  The `part` component of `C12_canonicalize_renames` is never absent: every
atom of the refined graph `r` has a partition class `q`, and the canonical graph carries exactly that class on
the renamed atom — `c.attrs? (σ a)` is the input's record with `part := some q` and nothing else changed. -/
theorem C12_classes_carried (order : Graph → List Nat)
    (hperm : ∀ r : Graph, r.WF → (order r).Perm r.labels)
    (g c r : Graph) (k : Nat) (hw : g.WF) (hs : g.Simple)
    (h : canonicalizeWith g order = .ok (c, r, k)) :
    ∃ σ : Nat → Nat,
      (∀ a ∈ g.labels, ∀ b ∈ g.labels, σ a = σ b → a = b) ∧
      (∀ a ∈ g.labels, σ a ∈ c.labels) ∧
      (∀ a ∈ g.labels, (c.nbrsD (σ a)).Perm ((g.nbrsD a).map fun e => (σ e.1, e.2))) ∧
      ∀ a ∈ g.labels, ∃ (x : Atom) (q : Int), g.attrs? a = some x ∧
        partOf? r a = some q ∧ partOf? c (σ a) = some q ∧
        c.attrs? (σ a) = some { x with part := some q } := by
  obtain ⟨σ, hσ⟩ := canonicalize_renames hperm hw hs h
  exact ⟨σ, hσ.inj, fun _ => hσ.mem, hσ.nbrs, hσ.attrs⟩

/-- **Serialization only touches the scratch flag.**  The post-state of the serializer's argument is the
argument with `explored := false` on every atom: labels, neighbour lists, bond records and every other
attribute are unchanged. -/
theorem C12_serialize_post (c p : Graph) (s : Str) (h : serializeMolecule c = .ok (s, p)) :
    p = c.resetExplored ∧ p.labels = c.labels ∧ (∀ a, p.nbrsD a = c.nbrsD a) ∧
    (∀ a, p.attrs? a = (c.attrs? a).map fun x => { x with explored := some false }) := by
  obtain rfl := serializeMolecule_post h
  exact ⟨rfl, reset_labels c, reset_nbrsD c, reset_attrs? c⟩

/-- **Repeating the serialization on the same object gives the same string.**  After one call the
argument is `c.resetExplored`; serializing that again returns the identical result. -/
theorem C12_serialize_repeat (c : Graph) :
    (serializeMolecule c.resetExplored).map (·.1) = (serializeMolecule c).map (·.1) := by
  rw [serializeMolecule_reset]

/-- non-vacuity: a concrete molecule meets the hypotheses -/
example : exGraph.WF ∧ exGraph.Simple := ⟨exGraph_wf, exGraph_simple⟩

end Tucan
