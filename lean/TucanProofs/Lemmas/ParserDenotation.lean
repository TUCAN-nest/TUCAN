import TucanProofs.Lemmas.GraphFromMolecule
import TucanProofs.Lemmas.SentenceShape
import TucanProofs.Lemmas.Iso
/-!
# What `to_graph` returns

On a listener state whose attribute indices are not negative, `to_graph` is its bound checks followed by
`graph_from_molecule` on two dictionaries (`toGraph_eq`).  For a state as an accepted string produces it (`GoodState`:
atoms with atomic numbers; bonds between different existing atoms, in any order and orientation, repeats allowed;
records that set only mass / radical on existing atoms) the returned graph has the atoms of the formula numbered by
increasing atomic number (a stable sort of the formula's expansion), the listed bonds as a *set*, and the listed
attributes on the indexed atoms (`toGraph_spec`).  Hence two spellings that denote the same molecule up to a
renumbering inside element blocks give graphs that are `Iso SameIdent` (`toGraph_respell`).
-/
namespace Tucan

/-- the attribute record the listener collected for atom index `k` (`{}` if none) -/
def extraOf (st : ListenerState) (k : Int) : Atom := (alookup k st.nodeAttrs).getD {}

def OnlyMassRad (x : Atom) : Prop :=
  x.sym = none ∧ x.z = none ∧ x.part = none ∧ x.chg = none ∧ x.x = none ∧ x.y = none ∧ x.zc = none ∧
  x.inv = none ∧ x.explored = none ∧ x.extra = none

/-- listener states that arise from accepted strings -/
structure GoodState (st : ListenerState) : Prop where
  atomsZ : ∀ a ∈ st.atoms, a.z.isSome
  bonds : ∀ b ∈ st.bonds, 0 ≤ b.1 ∧ b.1 < st.atoms.length ∧ 0 ≤ b.2 ∧ b.2 < st.atoms.length ∧ b.1 ≠ b.2
  attrsIdx : ∀ e ∈ st.nodeAttrs, 0 ≤ e.1 ∧ e.1 < st.atoms.length ∧ OnlyMassRad e.2
  attrsKeys : (st.nodeAttrs.map (·.1)).Nodup

/-- the atom the parser puts at index `i`: the `i`-th atom of the formula's expansion stably sorted by
atomic number, with the collected attributes joined in -/
def atomAt (st : ListenerState) (i : Nat) : Atom :=
  ((sortAtomsByZ st.atoms)[i]?.getD {}).update (extraOf st i)

theorem OnlyMassRad.eq {x : Atom} (h : OnlyMassRad x) : x = { mass := x.mass, rad := x.rad } := by
  obtain ⟨a1, a2, a3, a4, a5, a6, a7, a8, a9, a10⟩ := h
  cases x
  simp only at a1 a2 a3 a4 a5 a6 a7 a8 a9 a10
  subst a1 a2 a3 a4 a5 a6 a7 a8 a9 a10
  rfl

theorem OnlyMassRad.getD {o : Option Atom} (h : ∀ a, o = some a → OnlyMassRad a) : OnlyMassRad (o.getD {}) := by
  cases o with
  | none => exact ⟨rfl, rfl, rfl, rfl, rfl, rfl, rfl, rfl, rfl, rfl⟩
  | some a => exact h a rfl

theorem Atom.update_z {a extra : Atom} (h : extra.z = none) : (a.update extra).z = a.z := by
  simp [Atom.update, h]

theorem Atom.update_empty (a : Atom) : a.update {} = a := by
  cases a
  simp [Atom.update]

namespace PDen

/-- one round of the attribute loop of `to_graph` -/
def stepAttr (d : List (Int × Atom)) (e : Int × Atom) : List (Int × Atom) :=
  match alookup e.1 d with
  | none => d
  | some a => ainsert e.1 (a.update e.2) d

theorem keys_stepAttr (d : List (Int × Atom)) (e : Int × Atom) : (stepAttr d e).map (·.1) = d.map (·.1) := by
  unfold stepAttr
  cases hl : alookup e.1 d with
  | none => rfl
  | some a => exact keys_ainsert.trans (if_pos (alookup_isSome_iff.1 (hl ▸ rfl)))

theorem alookup_stepAttr (d : List (Int × Atom)) (e : Int × Atom) (k : Int) :
    alookup k (stepAttr d e) = if e.1 = k then (alookup k d).map (·.update e.2) else alookup k d := by
  unfold stepAttr
  cases hl : alookup e.1 d with
  | none =>
    by_cases h : e.1 = k
    · rw [if_pos h, ← h, hl]; rfl
    · rw [if_neg h]
  | some a =>
    rw [alookup_ainsert]
    by_cases h : e.1 = k
    · rw [if_pos h, ← h, hl, beq_self_eq_true]; rfl
    · rw [if_neg h, if_neg (by simpa using h)]

theorem foldl_stepAttr (na d : List (Int × Atom)) (hnd : (na.map (·.1)).Nodup) :
    (na.foldl stepAttr d).map (·.1) = d.map (·.1) ∧
    ∀ k, alookup k (na.foldl stepAttr d) = (alookup k d).map (·.update ((alookup k na).getD {})) := by
  induction na generalizing d with
  | nil => exact ⟨rfl, fun k => by simp [Atom.update_empty]⟩
  | cons e r ih =>
    rw [List.map_cons, List.nodup_cons] at hnd
    obtain ⟨ih1, ih2⟩ := ih (stepAttr d e) hnd.2
    refine ⟨ih1.trans (keys_stepAttr d e), fun k => ?_⟩
    rw [List.foldl_cons, ih2, alookup_stepAttr, alookup_cons]
    by_cases hk : e.1 = k
    · subst hk
      simp [alookup_eq_none_iff.2 hnd.1, Atom.update_empty, Function.comp_def]
    · simp [hk]

theorem bondsDict_spec (bs : List (Int × Int)) :
    ∀ (acc : List ((Int × Int) × Bond)), (acc.map (·.1)).Nodup →
      ((bs.foldl (fun d b => ainsert b ({} : Bond) d) acc).map (·.1)).Nodup ∧
      ∀ k, alookup k (bs.foldl (fun d b => ainsert b ({} : Bond) d) acc) =
        if k ∈ bs then some {} else alookup k acc := by
  induction bs with
  | nil => exact fun acc h => ⟨h, fun k => by simp⟩
  | cons b r ih =>
    intro acc h
    obtain ⟨h1, h2⟩ := ih (ainsert b {} acc) (nodup_keys_ainsert h)
    refine ⟨h1, fun k => ?_⟩
    rw [List.foldl_cons, h2, alookup_ainsert]
    by_cases hk : k ∈ r
    · simp [hk]
    · by_cases hb : b = k
      · simp [hb]
      · simp [hk, hb, Ne.symm hb]

theorem mem_bondsDict (bs : List (Int × Int)) (p : (Int × Int) × Bond) :
    p ∈ bs.foldl (fun d b => ainsert b ({} : Bond) d) [] ↔ p.2 = ({} : Bond) ∧ p.1 ∈ bs := by
  obtain ⟨h1, h2⟩ := bondsDict_spec bs [] List.nodup_nil
  obtain ⟨k, v⟩ := p
  rw [← alookup_eq_some_iff h1, h2]
  by_cases hk : k ∈ bs
  · simp [hk, eq_comm]
  · simp [hk]

theorem onlyMassRad_extraOf {st : ListenerState} (h : GoodState st) (k : Int) :
    OnlyMassRad (extraOf st k) :=
  .getD fun _ hl => (h.attrsIdx _ (mem_of_alookup hl)).2.2

theorem length_sortAtomsByZ (l : List Atom) : (sortAtomsByZ l).length = l.length := by
  simp [sortAtomsByZ, List.length_mergeSort]

theorem keys_sorted (l : List Atom) :
    ((sortAtomsByZ l).zipIdx.map fun (a, i) => ((i : Int), a)).map (·.1) =
      (List.range l.length).map fun (i : Nat) => (i : Int) :=
  length_sortAtomsByZ l ▸ keys_zipIdx_map (fun i : Nat => (i : Int)) (fun a : Atom => a) _

theorem atomAt_z {st : ListenerState} (h : GoodState st) (i : Nat) (hi : i < st.atoms.length) :
    (atomAt st i).z.isSome := by
  unfold atomAt
  rw [Atom.update_z (onlyMassRad_extraOf h _).2.1]
  have hi' : i < (sortAtomsByZ st.atoms).length := by rw [length_sortAtomsByZ]; exact hi
  rw [List.getElem?_eq_getElem hi', Option.getD_some]
  exact h.atomsZ _ (List.mem_mergeSort.1 (List.getElem_mem hi'))

end PDen

/-- **`to_graph` as one equation.**  On a negative attribute index, which the listener never produces, the lookup would
raise `KeyError`: hence `hna`. -/
theorem toGraph_eq (st : ListenerState) (hna : ∀ e ∈ st.nodeAttrs, 0 ≤ e.1) :
    toGraph st =
      if (∀ b ∈ st.bonds, b.1 < st.atoms.length ∧ b.2 < st.atoms.length) ∧
          ∀ e ∈ st.nodeAttrs, e.1 < st.atoms.length then
        graphFromMolecule
          (st.nodeAttrs.foldl PDen.stepAttr ((sortAtomsByZ st.atoms).zipIdx.map fun (a, i) => ((i : Int), a)))
          (st.bonds.foldl (fun d b => ainsert b ({} : Bond) d) []) >>= fun r => pure r.1
      else .error .tucanParser := by
  unfold toGraph
  dsimp only
  rw [PyM.forIn_guard (fun u _ => u) (fun b : Int × Int => b.1 < st.atoms.length ∧ b.2 < st.atoms.length)
    (fun _ => True) (e := .tucanParser) trivial, PyM.forIn_guard PDen.stepAttr (fun e : Int × Atom => e.1 < st.atoms.length)
    (·.map (·.1) = (List.range st.atoms.length).map fun (i : Nat) => (i : Int)) (e := .tucanParser)
    (PDen.keys_sorted st.atoms)]
  · simp only [PyM.ite_bind, PyM.ok_bind, PyM.error_bind, ite_and]
  · -- the attribute loop: one round is `stepAttr` behind its bound check
    intro d e he hd
    refine ⟨?_, fun _ => (PDen.keys_stepAttr d e).trans hd⟩
    simp only [ge_iff_le, ← Int.not_lt, ite_not, PyM.throw_eq_error, PyM.error_bind]
    refine ite_congr rfl (fun h1 => ?_) fun _ => rfl
    -- the dictionary keeps its keys `0 … n-1`, so an index below `n` is found
    have h0 := hna e he
    have hmem : e.1 ∈ d.map (·.1) :=
      hd ▸ List.mem_map.2 ⟨e.1.toNat, List.mem_range.2 ((Int.toNat_lt h0).2 h1), Int.toNat_of_nonneg h0⟩
    obtain ⟨a, ha⟩ := Option.isSome_iff_exists.1 (alookup_isSome_iff.2 hmem)
    simp only [PDen.stepAttr, ha]
    rfl
  · -- the bond loop: a bound check that changes nothing
    intro u b _ _
    simp only [ge_iff_le, ← Int.not_lt, ite_not, PyM.throw_eq_error, PyM.error_bind, PyM.pure_eq_ok, ite_and, and_true,
      implies_true]

/-- the graph `to_graph` returns for the state `st`: atoms `0 … n-1` carrying `atomAt st`, bonded as `st.bonds` lists them,
in either orientation -/
structure ToGraphSpec (st : ListenerState) (g : Graph) : Prop where
  labels : g.labels = List.range st.atoms.length
  wf : g.WF
  simple : g.Simple
  attrs : ∀ i, i < st.atoms.length → ∃ x, addInvariantCode (atomAt st i) = .ok x ∧ g.attrs? i = some x
  adj : ∀ i j : Nat, g.Adj i j ↔ ((i : Int), (j : Int)) ∈ st.bonds ∨ ((j : Int), (i : Int)) ∈ st.bonds

theorem toGraph_spec {st : ListenerState} (h : GoodState st) : ∃ g, toGraph st = .ok g ∧ ToGraphSpec st g := by
  -- the atom dictionary after the attribute loop: keys `0 … n-1`, at key `i` the record `atomAt st i`
  have hk0 := PDen.keys_sorted st.atoms
  obtain ⟨hkeys, hlook⟩ := PDen.foldl_stepAttr st.nodeAttrs
    ((sortAtomsByZ st.atoms).zipIdx.map fun (a, i) => ((i : Int), a)) h.attrsKeys
  rw [toGraph_eq st fun e he => (h.attrsIdx e he).1, if_pos ⟨fun b hb => ⟨(h.bonds b hb).2.1, (h.bonds b hb).2.2.2.1⟩,
    fun e he => (h.attrsIdx e he).2.1⟩]
  generalize st.nodeAttrs.foldl PDen.stepAttr _ = d at hkeys hlook ⊢
  have hlen : d.length = st.atoms.length := by simpa using congrArg List.length (hkeys.trans hk0)
  have hval : ∀ i (hi : i < d.length), (d[i]).2 = atomAt st i := by
    intro i hi
    have hi' : i < (sortAtomsByZ st.atoms).length := by rw [PDen.length_sortAtomsByZ, ← hlen]; exact hi
    have := alookup_of_keys_range (hkeys.trans hk0) i
    rw [hlook, alookup_of_keys_range hk0 i] at this
    simpa [atomAt, extraOf, hi, hi'] using this.symm
  have hbd := PDen.mem_bondsDict st.bonds
  obtain ⟨g, post, hgm, r, hnb⟩ := graphFromMolecule_consecutive d _ (hkeys.trans hk0)
    (fun b hb => h.bonds _ ((hbd b).1 hb).2)
    (fun b hb b' hb' _ => ((hbd b).1 hb).1.trans ((hbd b').1 hb').1.symm)
    (fun a ha => by
      obtain ⟨i, hi, rfl⟩ := List.getElem_of_mem ha
      rw [hval i hi]
      exact PDen.atomAt_z h i (hlen ▸ hi))
  refine ⟨g, by rw [hgm]; rfl, hlen ▸ r.labels, r.wf, r.simple, fun i hi => ?_, fun i j => ?_⟩
  · exact ⟨_, GFM.addInvariantCode_ok (PDen.atomAt_z h i hi), hval i (hlen ▸ hi) ▸ r.attrs i (hlen ▸ hi)⟩
  · simp only [NxE.adj_iff, hnb, hbd, ← and_or_left, exists_eq_left]

theorem toGraph_of_ok {st : ListenerState} (h : GoodState st) {g : Graph} (hg : toGraph st = .ok g) :
    ToGraphSpec st g := by
  obtain ⟨g0, e0, r⟩ := toGraph_spec h
  cases hg.symm.trans e0
  exact r

/-- **Respelling.**  Two listener states over the same formula whose bonds and attributes correspond
under a renumbering `π` of the atom indices that only moves atoms inside element blocks (it preserves the
atom found at each index) yield graphs that are the same molecule: `Iso SameIdent π`.  This covers
reordering tuples, swapping a tuple's endpoints, repeating a tuple, reordering or splitting attribute
blocks (all with `π = id`) and renumbering atoms within an element block. -/
theorem toGraph_respell (st st' : ListenerState) (h : GoodState st) (h' : GoodState st')
    (π : Nat → Nat)
    (hlen : st'.atoms.length = st.atoms.length)
    (hπ : ∀ i, i < st.atoms.length → π i < st.atoms.length)
    (hinj : ∀ i j, i < st.atoms.length → j < st.atoms.length → π i = π j → i = j)
    (hatoms : ∀ i, i < st.atoms.length → (sortAtomsByZ st'.atoms)[π i]? = (sortAtomsByZ st.atoms)[i]?)
    (hextra : ∀ i, i < st.atoms.length →
      (extraOf st' (π i)).mass = (extraOf st i).mass ∧ (extraOf st' (π i)).rad = (extraOf st i).rad)
    (hbonds : ∀ i j, i < st.atoms.length → j < st.atoms.length →
      ((((i : Int), (j : Int)) ∈ st.bonds ∨ ((j : Int), (i : Int)) ∈ st.bonds) ↔
       (((π i : Int), (π j : Int)) ∈ st'.bonds ∨ ((π j : Int), (π i : Int)) ∈ st'.bonds)))
    (g g' : Graph) (hg : toGraph st = .ok g) (hg' : toGraph st' = .ok g') :
    Iso SameIdent π g g' := by
  have r := toGraph_of_ok h hg
  have r' := toGraph_of_ok h' hg'
  refine Iso.of_range (.of_eq r.labels) (.of_eq (hlen ▸ r'.labels)) r.wf r'.wf hπ hinj (fun a ha => ?_)
    fun a b ha hb => (r.adj a b).trans ((hbonds a b ha hb).trans (r'.adj (π a) (π b)).symm)
  obtain ⟨x, hx1, hx2⟩ := r.attrs a ha
  obtain ⟨y, hy1, hy2⟩ := r'.attrs (π a) (hlen ▸ hπ a ha)
  have hex : extraOf st' (π a) = extraOf st a := by
    rw [(PDen.onlyMassRad_extraOf h' _).eq, (PDen.onlyMassRad_extraOf h _).eq, (hextra a ha).1, (hextra a ha).2]
  have heq : atomAt st' (π a) = atomAt st a := by
    unfold atomAt
    rw [hatoms a ha, hex]
  rw [heq, hx1] at hy1
  cases hy1
  exact ⟨x, x, hx2, hy2, rfl, rfl, rfl, rfl, rfl⟩

end Tucan
