import TucanModel.Serialize
import TucanProofs.Lemmas.Basics.Order
/-!
# The cosmetic relabelling `_assign_final_labels` (model: `bfsRun`, `finalLabels`)

S4 (representation independence): the result does not depend on the order in which nodes and
neighbours are listed.  S5 (totality and bijectivity): on a well-formed view the loop never pops an
empty list, never looks up a missing node, meets its assertion, and assigns every label exactly once.
-/
namespace Tucan

/-- two views of the same labelled graph that differ only in listing order -/
structure ViewEquiv (v w : View) : Prop where
  nodes : v.nodes.Perm w.nodes
  part : ∀ a, v.part a = w.part a
  nbrs : ∀ a, (v.nbrs a).Perm (w.nbrs a)

structure View.WF (v : View) : Prop where
  nodup : v.nodes.Nodup
  closed : ∀ a ∈ v.nodes, ∀ b ∈ v.nbrs a, b ∈ v.nodes

/-- the equation of `bfsRun` without the proofs its termination argument carries -/
theorem bfsRun_unfold (v : View) (s : BfsState) :
    bfsRun v s =
      (match s.queue.getLast? with
       | none =>
         (match sortN (unexplored v s.explored) with
          | [] => .ok s
          | u :: _ => (explore v s u []).bind (bfsRun v))
       | some a =>
         if a ∈ v.nodes then
           (if s.explored.contains a then bfsRun v { s with queue := s.queue.dropLast }
            else (explore v s a s.queue.dropLast).bind (bfsRun v))
         else .error .keyError) := by
  fun_induction bfsRun v s with
  | case1 s hq hu => rw [hq, hu]
  | case2 s hq u t hu _ e he => rw [hq, hu]; simp only [he, Except.bind]
  | case3 s hq u t hu _ s' he => rw [hq, hu]; simp only [he, Except.bind]
  | case4 s a hq q hn hx => rw [hq]; simp only [hn, hx, if_true]; rfl
  | case5 s a hq q hn hx e he =>
    rw [hq]; simp only [hn, hx, if_true, Bool.false_eq_true, if_false, q, he, Except.bind]
  | case6 s a hq q hn hx s' he =>
    rw [hq]; simp only [hn, hx, if_true, Bool.false_eq_true, if_false, q, he, Except.bind]
  | case7 s a hq hn => rw [hq]; simp only [hn, if_false]

section Congr
variable {v w : View} (h : ViewEquiv v w)
include h

theorem ViewEquiv.part_fun : v.part = w.part := funext h.part

theorem ViewEquiv.availInit_eq : availInit v = availInit w := by
  unfold availInit
  rw [← h.part_fun]
  have h1 : (v.nodes.map v.part).mergeSort leI = (w.nodes.map v.part).mergeSort leI :=
    leI_totalLE.sort_perm_eq (h.nodes.map _)
  rw [h1]
  apply List.map_congr_left
  intro p _
  rw [sortN_perm_eq (h.nodes.filter _)]

theorem ViewEquiv.travOrder_eq (a : Nat) : travOrder v a = travOrder w a := by
  unfold travOrder
  simp only [← h.part_fun]
  rw [sortN_perm_eq ((h.nbrs a).filter _), sortN_perm_eq ((h.nbrs a).filter _),
    sortN_perm_eq ((h.nbrs a).filter _)]

theorem ViewEquiv.unexplored_eq (ex : List Nat) :
    sortN (unexplored v ex) = sortN (unexplored w ex) :=
  sortN_perm_eq (h.nodes.filter _)

theorem ViewEquiv.explore_eq (s : BfsState) (a : Nat) (q : List Nat) :
    explore v s a q = explore w s a q := by
  unfold explore
  rw [h.travOrder_eq, h.part_fun]

theorem ViewEquiv.bfsRun_eq (s : BfsState) : bfsRun v s = bfsRun w s := by
  -- `bfsRun w` satisfies the equation of `bfsRun v`
  have hw := bfsRun_unfold w
  simp only [← h.unexplored_eq, ← funext fun s => funext fun a => funext (h.explore_eq s a), ← h.nodes.mem_iff] at hw
  fun_induction bfsRun v s with
  | case1 s hq hu => rw [hw, hq, hu]
  | case2 s hq u t hu _ e he => rw [hw, hq, hu]; simp only [he, Except.bind]
  | case3 s hq u t hu _ s' he ih => rw [hw, hq, hu]; simp only [he, Except.bind, ih]
  | case4 s a hq q hn hx ih => rw [hw, hq]; simp only [hn, hx, if_true]; exact ih
  | case5 s a hq q hn hx e he =>
    rw [hw, hq]; simp only [hn, hx, if_true, Bool.false_eq_true, if_false, q, he, Except.bind]
  | case6 s a hq q hn hx s' he ih =>
    rw [hw, hq]; simp only [hn, hx, if_true, Bool.false_eq_true, if_false, q, he, Except.bind, ih]
  | case7 s a hq hn => rw [hw, hq]; simp only [hn, if_false]

end Congr

/-- S4: `final_labels` (including its insertion order) is a function of the labelled graph, not of its
listing -/
theorem finalLabels_congr (v w : View) (h : ViewEquiv v w) : finalLabels v = finalLabels w := by
  unfold finalLabels
  rw [h.availInit_eq, h.bfsRun_eq, h.nodes.length_eq]

namespace Bfs

/-- the labels still available for partition `p` (first entry with key `p`) -/
def availOf (p : Int) : List (Int × List Nat) → List Nat
  | [] => []
  | (q, ls) :: rest => if q == p then ls else availOf p rest

theorem availOf_map (f : Int → List Nat) (keys : List Int) (p : Int) :
    availOf p (keys.map fun k => (k, f k)) = if p ∈ keys then f p else [] := by
  induction keys with
  | nil => simp [availOf]
  | cons k ks ih =>
    rw [List.map_cons, availOf, ih]
    by_cases hk : k = p
    · simp [hk]
    · simp [hk, Ne.symm hk]

theorem flatMap_filter_perm (part : Nat → Int) (s : List Nat → List Nat) (hs : ∀ l, (s l).Perm l) (l : List Nat)
    (keys : List Int) (hk : keys.Nodup) :
    (keys.flatMap fun p => s (l.filter (part · == p))).Perm (l.filter fun a => keys.contains (part a)) := by
  induction keys with
  | nil => simp
  | cons k ks ih =>
    obtain ⟨hk1, hk2⟩ := List.nodup_cons.mp hk
    -- of the nodes with a class in `k :: ks`: those of class `k`, then the others
    refine .trans ?_ (List.filter_append_perm (part · == k) _)
    rw [List.flatMap_cons, List.filter_filter, List.filter_filter]
    refine ((hs _).trans (.of_eq (List.filter_congr fun a _ => ?_))).append
      ((ih hk2).trans (.of_eq (List.filter_congr fun a _ => ?_)))
    · simpa using Or.inl
    · by_cases h : part a = k
      · subst h; simpa using hk1
      · simp [h]

theorem popAvail_spec (p : Int) (av : List (Int × List Nat)) :
    match popAvail p av with
    | none => availOf p av = []
    | some (l, av') => (∀ p', availOf p' av = (if p' = p then [l] else []) ++ availOf p' av') ∧
        (av.flatMap (·.2)).Perm (l :: av'.flatMap (·.2)) := by
  fun_induction popAvail p av with
  | case1 => rfl
  | case2 q rest hq => simp [availOf, hq]
  | case3 q rest hq l ls' =>
    cases (eq_of_beq hq : q = p)
    refine ⟨fun p' => ?_, by simp⟩
    by_cases h : p' = p
    · simp [availOf, h]
    · simp [availOf, h, Ne.symm h]
  | case4 q ls rest hq ih =>
    cases hr : popAvail p rest with
    | none => rw [hr] at ih; simpa [availOf, hq] using ih
    | some x =>
      obtain ⟨l1, rest'⟩ := x
      rw [hr] at ih
      refine ⟨fun p' => ?_, ?_⟩
      · simp only [availOf]
        split
        · next h => rw [if_neg (fun e => hq (by rw [← e, h]))]; rfl
        · exact ih.1 p'
      · simp only [List.flatMap_cons]
        exact (ih.2.append_left ls).trans List.perm_middle

theorem filter_unexplored_cons {v : View} (hnd : v.nodes.Nodup) (ex : List Nat) (a : Nat) (p : Int) :
    v.nodes.filter (fun k => !(a :: ex).contains k && v.part k == p) =
      (v.nodes.filter fun k => !ex.contains k && v.part k == p).erase a := by
  rw [(hnd.sublist List.filter_sublist).erase_eq_filter, List.filter_filter]
  refine List.filter_congr fun k _ => ?_
  simp only [List.contains_cons, bne]
  cases (k == a) <;> cases ex.contains k <;> cases (v.part k == p) <;> rfl

theorem availOf_availInit (v : View) (p : Int) :
    availOf p (availInit v) = sortN (v.nodes.filter (v.part · == p)) := by
  unfold availInit
  rw [availOf_map (fun p => sortN (v.nodes.filter (v.part · == p)))]
  split
  · rfl
  · next hp =>
    rw [mem_dedupAdj, List.mem_mergeSort, List.mem_map] at hp
    have : v.nodes.filter (v.part · == p) = [] := by
      rw [List.filter_eq_nil_iff]
      intro a ha hpa
      exact hp ⟨a, ha, by simpa using hpa⟩
    rw [this]; simp [sortN]

theorem availInit_flatMap (v : View) : ((availInit v).flatMap (·.2)).Perm v.nodes := by
  unfold availInit
  rw [List.flatMap_map]
  refine (flatMap_filter_perm v.part sortN sortN_perm v.nodes _
    (leI_totalLE.dedupAdj_sort_nodup _)).trans (.of_eq ?_)
  rw [List.filter_eq_self]
  intro a ha
  rw [List.contains_iff_mem, mem_dedupAdj, List.mem_mergeSort]
  exact List.mem_map_of_mem ha

/-- `count`: of every class as many labels are still available as nodes are unexplored, so the `pop()` in `explore`
never meets an empty list; `labels`: the labels given out and those still available are the nodes. -/
structure Inv (v : View) (s : BfsState) : Prop where
  exNodup : s.explored.Nodup
  exNodes : ∀ a ∈ s.explored, a ∈ v.nodes
  finalFst : s.final.map (·.1) = s.explored.reverse
  availPart : ∀ p, ∀ l ∈ availOf p s.avail, v.part l = p
  labels : (s.final.map (·.2) ++ s.avail.flatMap (·.2)).Perm v.nodes
  count : ∀ p, (availOf p s.avail).length =
    (v.nodes.filter (fun k => !s.explored.contains k && v.part k == p)).length
  queueNodes : ∀ b ∈ s.queue, b ∈ v.nodes
  finalPart : ∀ x ∈ s.final, v.part x.2 = v.part x.1

theorem Inv.init (v : View) : Inv v ⟨[], [], availInit v, []⟩ where
  exNodup := List.nodup_nil
  exNodes := by simp
  finalFst := rfl
  availPart := by
    intro p l hl
    rw [availOf_availInit] at hl
    simp only [sortN, List.mem_mergeSort, List.mem_filter] at hl
    simpa using hl.2
  labels := by simpa using availInit_flatMap v
  count := by
    intro p
    rw [availOf_availInit]
    simp [sortN]
  queueNodes := by simp
  finalPart := by simp

theorem mem_travOrder {v : View} {a b : Nat} (h : b ∈ travOrder v a) : b ∈ v.nbrs a := by
  unfold travOrder at h
  simp only [sortN, List.mem_append, List.mem_mergeSort, List.mem_filter] at h
  rcases h with (h | h) | h <;> exact h.1

theorem Inv.explore {v : View} {s : BfsState} (hwf : v.WF) (hI : Inv v s) (a : Nat)
    (ha : a ∈ v.nodes) (hx : s.explored.contains a = false) (q : List Nat)
    (hq : ∀ b ∈ q, b ∈ v.nodes) : ∃ s', explore v s a q = .ok s' ∧ Inv v s' := by
  have hxa : a ∉ s.explored := by simpa using hx
  have hmem : ∀ p, a ∈ v.nodes.filter (fun k => !s.explored.contains k && v.part k == p) ↔ v.part a = p := by
    simp [ha, hxa]
  have hpop := popAvail_spec (v.part a) s.avail
  unfold Tucan.explore
  cases hp : popAvail (v.part a) s.avail with
  | none =>
    -- `a` is unexplored, so by `count` a label of its partition is left
    rw [hp] at hpop
    have hc := hI.count (v.part a)
    rw [hpop, List.length_nil] at hc
    exact absurd ((hmem _).mpr rfl) (List.eq_nil_of_length_eq_zero hc.symm ▸ List.not_mem_nil)
  | some x =>
    obtain ⟨l, av'⟩ := x
    rw [hp] at hpop
    obtain ⟨h1, h3⟩ := hpop
    exact ⟨_, rfl, {
      exNodup := List.nodup_cons.mpr ⟨hxa, hI.exNodup⟩
      exNodes := List.forall_mem_cons.mpr ⟨ha, hI.exNodes⟩
      finalFst := by simp [hI.finalFst]
      availPart := fun p l' hl' => hI.availPart p l' (by rw [h1 p]; exact List.mem_append_right _ hl')
      labels := by
        refine .trans ?_ hI.labels
        simpa using h3.symm.append_left (s.final.map (·.2))
      count := fun p => by
        have hc := hI.count p
        rw [h1 p, List.length_append] at hc
        show (availOf p av').length = (v.nodes.filter
          (fun k => !(a :: s.explored).contains k && v.part k == p)).length
        rw [filter_unexplored_cons hwf.nodup, List.length_erase, ← hc]
        by_cases hpa : p = v.part a
        · rw [if_pos hpa, if_pos ((hmem p).mpr hpa.symm)]; simp
        · rw [if_neg hpa, if_neg fun h => hpa ((hmem p).mp h).symm]; simp
      queueNodes := fun b hb => (List.mem_append.mp hb).elim
        (fun hb => hwf.closed a ha b (mem_travOrder (List.mem_reverse.mp hb))) (hq b)
      finalPart := fun y hy => (List.mem_append.mp hy).elim (hI.finalPart y) fun hy => by
        obtain rfl : y = (a, l) := by simpa using hy
        exact hI.availPart (v.part a) l (by rw [h1]; simp) }⟩

theorem Inv.skip {v : View} {s : BfsState} (hI : Inv v s) :
    Inv v { s with queue := s.queue.dropLast } :=
  { hI with queueNodes := fun b hb => hI.queueNodes b (List.dropLast_subset _ hb) }

theorem mem_unexplored {v : View} {ex : List Nat} {u : Nat} (h : u ∈ unexplored v ex) :
    u ∈ v.nodes ∧ ex.contains u = false := by
  unfold unexplored at h
  rw [List.mem_filter] at h
  exact ⟨h.1, by simpa using h.2⟩

theorem Inv.run {v : View} (hwf : v.WF) {s : BfsState} (hI : Inv v s) :
    ∃ s', bfsRun v s = .ok s' ∧ Inv v s' ∧ unexplored v s'.explored = [] := by
  fun_induction bfsRun v s with
  | case1 s hq hu =>
    refine ⟨s, rfl, hI, ?_⟩
    have := congrArg List.length hu
    simp only [sortN, List.length_mergeSort, List.length_nil] at this
    exact List.eq_nil_of_length_eq_zero this
  | case2 s hq u t hu hmem e he =>
    obtain ⟨hn, hx⟩ := mem_unexplored hmem
    obtain ⟨_, he', _⟩ := hI.explore hwf u hn hx [] (by simp)
    cases he.symm.trans he'
  | case3 s hq u t hu hmem s' he ih =>
    obtain ⟨hn, hx⟩ := mem_unexplored hmem
    obtain ⟨_, he', hI'⟩ := hI.explore hwf u hn hx [] (by simp)
    cases he.symm.trans he'
    exact ih hI'
  | case4 s a hq q hn hx ih => exact ih hI.skip
  | case5 s a hq q hn hx e he =>
    obtain ⟨_, he', _⟩ := hI.explore hwf a hn (by simpa using hx) q
      (fun b hb => hI.queueNodes b (List.dropLast_subset _ hb))
    cases he.symm.trans he'
  | case6 s a hq q hn hx s' he ih =>
    obtain ⟨_, he', hI'⟩ := hI.explore hwf a hn (by simpa using hx) q
      (fun b hb => hI.queueNodes b (List.dropLast_subset _ hb))
    cases he.symm.trans he'
    exact ih hI'
  | case7 s a hq hn => exact absurd (hI.queueNodes a (List.mem_of_getLast? hq)) hn

end Bfs

/-- S5: the loop completes without `IndexError`, `KeyError` or `AssertionError`, and `final_labels`
is a bijection from the nodes onto the nodes that keeps every node inside its partition -/
theorem finalLabels_ok (v : View) (h : v.WF) :
    ∃ fl, finalLabels v = .ok fl ∧ (fl.map (·.1)).Perm v.nodes ∧ (fl.map (·.2)).Perm v.nodes ∧
      ∀ p ∈ fl, v.part p.2 = v.part p.1 := by
  obtain ⟨s, hs, hI, hu⟩ := Bfs.Inv.run h (Bfs.Inv.init v)
  -- nothing is left unexplored, so the explored nodes are all nodes …
  have hfst : (s.final.map (·.1)).Perm v.nodes := by
    rw [hI.finalFst]
    refine (List.reverse_perm _).trans ((List.perm_ext_iff_of_nodup hI.exNodup h.nodup).mpr fun a =>
      ⟨hI.exNodes a, fun ha => ?_⟩)
    simpa using List.filter_eq_nil_iff.mp hu a ha
  have hlen : s.final.length = v.nodes.length := by simpa using hfst.length_eq
  -- … and no label is left available
  have hsnd : (s.final.map (·.2)).Perm v.nodes := by
    have hl := hI.labels
    have := hl.length_eq
    simp only [List.length_append, List.length_map] at this
    rwa [List.eq_nil_of_length_eq_zero (by omega : (s.avail.flatMap (·.2)).length = 0), List.append_nil] at hl
  refine ⟨s.final, ?_, hfst, hsnd, hI.finalPart⟩
  unfold finalLabels
  rw [hs]
  show (if (s.final.length == v.nodes.length) = true then Except.ok s.final
    else Except.error PyErr.assertion) = _
  rw [hlen]; simp

end Tucan
