import TucanProofs.Lemmas.Hill
import TucanProofs.Lemmas.NxEdges
import TucanProofs.Lemmas.RoundTrip
import TucanProofs.Lemmas.FilesMol
import TucanProofs.Lemmas.MoreExamples
import TucanProofs.Lemmas.LayoutString
/-!
# C05 — every emitted string obeys the published grammar and canonical layout

The statements are about the serializer model and the grammar tables (regenerated from the parser's ATN on every run).
-/
namespace Tucan

/-- **Hill order is accepted by the grammar, for every subset of the 118 elements and any counts.**
The formula the writer emits for any multiset of element symbols is read by the `sum_formula` rule and
returns exactly the writer's items (symbol and count). -/
theorem C05_hill_formula_accepted (syms : List Str) (hel : ∀ s ∈ syms, s ∈ elementSyms) (rest : List Tok) :
    parseFormula (formulaToks (hillItems syms) ++ Tok.lit ['/'] :: rest)
      = some ((hillItems syms).map fun i => (i.1, countText i.2), Tok.lit ['/'] :: rest) :=
  Sentence.formula_complete (sumFormula_hillItems syms hel) rest

/-- the formula text is the text of those items, and the items are the element counts of the molecule:
every symbol that occurs, once, with its multiplicity (≥ 1) -/
theorem C05_formula_equals_element_counts (g : Graph) :
    writeSumFormula g = formulaText (hillItems (g.nodes.filterMap (·.attrs.sym))) ∧
    (∀ i ∈ hillItems (g.nodes.filterMap (·.attrs.sym)),
        1 ≤ i.2 ∧ i.2 = countOcc i.1 (g.nodes.filterMap (·.attrs.sym))) ∧
    ((hillItems (g.nodes.filterMap (·.attrs.sym))).map (·.1)).Nodup ∧
    (∀ s, s ∈ (hillItems (g.nodes.filterMap (·.attrs.sym))).map (·.1) ↔ s ∈ g.nodes.filterMap (·.attrs.sym)) :=
  ⟨writeSumFormula_eq g, fun _ => hillItems_count, (hillItems_fst _ ▸ hillSyms_hillOrder _).nodup, fun _ => mem_hillItems_fst⟩

/-- **Each bond appears exactly once as `(a-b)` with `a < b`, tuples in strictly ascending order**, and
there is one tuple per bond. -/
theorem C05_tuples_layout (g : Graph) (hw : g.WF) (hs : g.Simple) :
    (∀ a b, (a, b) ∈ sortedEdges g ↔ a < b ∧ g.Adj a b) ∧
    (sortedEdges g).Pairwise (fun x y => x.1 < y.1 ∨ (x.1 = y.1 ∧ x.2 < y.2)) ∧
    (sortedEdges g).length = g.numberOfEdges :=
  ⟨fun a b => sortedEdges_mem g hw hs a b, sortedEdges_strict g hw, sortedEdges_length g⟩

/-- the grammar's two formula rules are: every element optional, in code-point order (`without_carbon`),
and C, H, then the rest in code-point order (`with_carbon`) — as the executing parser tables have it -/
theorem C05_grammar_element_order :
    chainLt withoutCarbonOrder = true ∧
    withCarbonOrder = ['C'] :: ['H'] :: withoutCarbonOrder.filter (· != ['H']) :=
  ⟨withoutCarbonOrder_chain, withCarbonOrder_eq⟩

/-- **The canonical layout, stated about the emitted string.**  The string the pipeline returns for a molecule
lexes, is a sentence of the grammar, and its syntax tree (which the grammar determines) has the canonical layout
(`Ast.Canonical`): element symbols in Hill order, each once (`IsHillOrder`, written without reference to the
writer); every literal the decimal numeral of a positive number without leading zeros, a count of 1 not
written; every tuple `(a-b)` with `a < b`, tuples strictly ascending (so each bond once); attribute blocks
strictly ascending by atom index (so one block per atom), each non-empty with `mass` before `rad`; and it states
the molecule's own counts: as many atoms of each element as the molecule has, every element of the molecule,
`n` atoms, one tuple per bond, one attribute block per atom that carries a mass or a radical. -/
theorem C05_emitted_layout (order : Graph → List Nat) (hperm : ∀ r : Graph, r.WF → (order r).Perm r.labels)
    (g : Graph) (hw : g.WF) (hs : g.Simple) (hmol : g.MolAtoms)
    (s : Str) (h : tucanOf order g = .ok s) :
    ∃ toks ast, lex s = some toks ∧ Sentence toks ast ∧ ast.Canonical ∧
      (∀ p ∈ ast.formula, Acc.itemCount p = countOcc p.1 (g.nodes.filterMap (·.attrs.sym))) ∧
      (∀ sym ∈ g.nodes.filterMap (·.attrs.sym), sym ∈ ast.formula.map (·.1)) ∧
      ast.atomCount = g.numberOfNodes ∧
      ast.tuples.length = g.numberOfEdges ∧
      ast.attrs.length = (g.nodes.filter fun n => n.attrs.mass.isSome || n.attrs.rad.isSome).length := by
  obtain ⟨m, τ, rfl, S, iso⟩ := emitted_form hperm hw hs hmol h
  obtain ⟨toks, hlex, hsent⟩ := S.parses
  exact ⟨toks, astOf m, hlex, hsent, Layout.astOf_canonical S, Layout.astOf_counts S hw hs iso⟩

/-- what `Ast.Canonical` asks, spelled out -/
theorem C05_canonical_spelled_out (ast : Ast) : ast.Canonical ↔
    IsHillOrder (ast.formula.map (·.1)) ∧
    (∀ t ∈ ast.literals, 1 ≤ litVal t ∧ t = natRepr (litVal t)) ∧
    (∀ p ∈ ast.formula, ∀ c, p.2 = some c → 2 ≤ litVal c) ∧
    (∀ p ∈ ast.tuples, litVal p.1 < litVal p.2) ∧
    (ast.tuples.map fun p => (litVal p.1, litVal p.2)).Pairwise (fun x y => x.1 < y.1 ∨ (x.1 = y.1 ∧ x.2 < y.2)) ∧
    (ast.attrs.map fun b => litVal b.1).Pairwise (· < ·) ∧
    (∀ b ∈ ast.attrs, b.2.map (·.1) = ["mass".toList] ∨ b.2.map (·.1) = ["rad".toList] ∨
      b.2.map (·.1) = ["mass".toList, "rad".toList]) :=
  ⟨fun h => ⟨h.hill, h.numerals, h.noCountOne, h.tupleOrient, h.tuplesAscending, h.blocksAscending, h.blockKeys⟩,
   fun ⟨a, b, c, d, e, f, g⟩ => ⟨a, b, c, d, e, f, g⟩⟩

/-- **Hill order, specified**: for every multiset of symbols, the symbols of the items the writer emits are
distinct; with carbon, `C` comes first, then `H` when present, then the rest by ascending code points; without
carbon everything (hydrogen included) by ascending code points. -/
theorem C05_writer_order_is_hill (syms : List Str) : IsHillOrder ((hillItems syms).map (·.1)) :=
  hillItems_fst syms ▸ hillSyms_hillOrder syms

/-- non-vacuity of `IsHillOrder`: `C, H, Cl, N, O` is in Hill order; `H, C` and `C, O, N` are not -/
example : IsHillOrder [['C'], ['H'], ['C','l'], ['N'], ['O']] ∧ ¬ IsHillOrder [['H'], ['C']] ∧
    ¬ IsHillOrder [['C'], ['O'], ['N']] := by
  refine ⟨⟨by decide +kernel, fun _ => ⟨_, rfl, fun _ => ⟨_, rfl⟩⟩, by decide +kernel⟩, ?_, ?_⟩
  · intro h
    obtain ⟨r, hr, _⟩ := h.carbonFirst (by decide)
    cases hr
  · intro h
    have := h.restAscending
    revert this
    decide

/-- **Every string the pipeline emits is a sentence of the published grammar** (lexically and
syntactically), for molecules in the domain the readers and the parser produce (`MolAtoms`: element
symbols of the table, mass / radical absent or strictly positive). -/
theorem C05_emitted_is_sentence (order : Graph → List Nat) (hperm : ∀ r : Graph, r.WF → (order r).Perm r.labels)
    (g : Graph) (hw : g.WF) (hs : g.Simple) (hmol : g.MolAtoms)
    (hsize : (natRepr (g.numberOfNodes + 1)).length ≤ intMaxStrDigits)
    (s : Str) (h : tucanOf order g = .ok s) :
    ∃ toks ast, lex s = some toks ∧ Sentence toks ast := by
  obtain ⟨toks, ast, hl, hsen, _⟩ := emitted_layout order hperm g hw hs hmol s h
  exact ⟨toks, ast, hl, hsen⟩

/-- **From the graph of a conformant molecule to a sentence** (with the file's text inside the statement:
`C15_v3000_text_to_string`).  For the graph of every molecule a molfile can state within the
CTfile specification (`Mol.Conformant`: element symbols of the table or D/T, masses and radicals not negative;
the graph is what either reader returns for a file stating it — `C06_v3000_file_any_indices`,
`C06_readsAs_graph_of`), the emitted string is a sentence of the grammar. -/
theorem C05_molfile_string_is_sentence (order : Graph → List Nat) (hperm : ∀ r : Graph, r.WF → (order r).Perm r.labels)
    (g : Graph) (m : Mol) (c : List (Str × Str × Str)) (hc : c.length = m.atoms.length)
    (hm : m.Conformant) (hg : IsGraphOf g m c)
    (hsize : (natRepr (m.atoms.length + 1)).length ≤ intMaxStrDigits)
    (s : Str) (h : tucanOf order g = .ok s) : ∃ toks ast, lex s = some toks ∧ Sentence toks ast := by
  obtain ⟨toks, ast, hl, hsen, -⟩ := emitted_layout order hperm g hg.wf hg.simple (hg.molAtoms hm hc) s h
  exact ⟨toks, ast, hl, hsen⟩

/-- **Atom indices run `1 … n` in blocks of increasing atomic number**: the molecule the string is written
from (the result of `sort_molecule_by_attribute(·, ATOMIC_NUMBER)`) has the labels `0 … n-1`, and the
atomic number is non-decreasing along the labels. -/
theorem C05_indices_in_blocks_of_Z (g m : Graph) (hw : g.WF) (hs : g.Simple)
    (hm : sortMoleculeByAttribute g .atomicNumber = .ok m)
    (hz : ∀ a ∈ g.labels, ∃ x z, g.attrs? a = some x ∧ x.z = some z) :
    m.labels.Perm (List.range g.numberOfNodes) ∧
    ∀ i j, i < j → j < g.numberOfNodes →
      (RoundTrip.atomAt m i).z.getD 0 ≤ (RoundTrip.atomAt m j).z.getD 0 :=
  ⟨(sortBy_relabel hw hm).2.2, RoundTrip.sortBy_zsorted hw hm hz⟩

/-- **Attribute blocks appear once per labelled atom, in strictly ascending index order.** -/
theorem C05_attribute_blocks_ascending (m : Graph) (hw : m.WF) :
    ((m.nodes.mergeSort fun a b => decide (a.id ≤ b.id)).filterMap fun n =>
      if (attrPairs n.attrs).isEmpty then none else some n.id).Pairwise (· < ·) := by
  refine List.Pairwise.filterMap _ ?_ (sortedNodes_strict hw)
  intro a a' haa b hb b' hb'
  split at hb <;> simp at hb
  split at hb' <;> simp at hb'
  subst hb; subst hb'
  exact haa

/-- non-vacuity of `C05_molfile_string_is_sentence` -/
example : FilesExample.mol.Conformant := MoreExamples.mol_conformant

end Tucan
