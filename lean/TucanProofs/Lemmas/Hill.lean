import TucanProofs.Lemmas.Sentence
import TucanProofs.Lemmas.Basics.Order
import TucanProofs.Lemmas.Basics.Text
/-!
# The Hill-order formula writer only emits formulas the grammar accepts (token level)

`writeSumFormula` is the model of `_write_sum_formula`.  Its items are C, H (when carbon is present) and then
the remaining symbols in ascending code-point order: a sub-sequence of the element order of the grammar rule
`with_carbon` / `without_carbon`, so their tokens are a derivation of `SumFormula`, and by
`Sentence.formula_complete` the reader accepts them.  `IsHillOrder` states the order without reference to the
writer.
-/
namespace Tucan

/-- Hill order of a list of distinct element symbols: with carbon, `C` first, then `H` when present, then the
rest by ascending code points; without carbon, everything (hydrogen included) by ascending code points. -/
structure IsHillOrder (l : List Str) : Prop where
  nodup : l.Nodup
  carbonFirst : ['C'] ∈ l → ∃ r, l = ['C'] :: r ∧ (['H'] ∈ r → ∃ r', r = ['H'] :: r')
  restAscending :
    (if ['C'] ∈ l then l.filter (fun s => s != ['C'] && s != ['H']) else l).Pairwise (fun a b => a < b)

/-- the count text the listener sees for a count `c ≥ 1` -/
def countText (c : Nat) : Option Str := if c > 1 then some (natRepr c) else none

theorem countText_some {c : Nat} {t : Str} (h : countText c = some t) : 2 ≤ c ∧ t = natRepr c := by
  unfold countText at h
  split at h
  · injection h with h; exact ⟨by omega, h.symm⟩
  · cases h

/-- how the lexer classifies a number text without leading zero: one digit is a literal token,
several digits are `GREATER_THAN_NINE` -/
def numTok (ds : Str) : Tok := if ds.length = 1 then .lit ds else .big ds

def formulaToks (items : List (Str × Nat)) : List Tok :=
  items.flatMap fun i => Tok.lit i.1 :: (if i.2 > 1 then [numTok (natRepr i.2)] else [])

/-- each item as `f"{k}{v}" if v > 1 else k` -/
def formulaText (items : List (Str × Nat)) : Str := (items.map fun i => symCount i.1 i.2).flatten

/-- the items `_write_sum_formula` emits for a multiset of element symbols: C and H first when carbon
is present, the rest in ascending code-point order, each with its multiplicity -/
def hillItems (syms : List Str) : List (Str × Nat) :=
  let c := countOcc ['C'] syms
  let h := countOcc ['H'] syms
  let withC := c > 0
  let head := if withC then (['C'], c) :: (if h > 0 then [(['H'], h)] else []) else []
  let rest0 := syms.filter fun s => s != ['C'] && !(withC && s == ['H'])
  head ++ (dedupAdj (rest0.mergeSort leStr)).map fun k => (k, countOcc k syms)

/-- the keys after the C/H head -/
def Hill.hillKeys (syms : List Str) : List Str :=
  dedupAdj ((syms.filter fun s =>
    s != ['C'] && !(decide (countOcc ['C'] syms > 0) && s == ['H'])).mergeSort leStr)

/-- the symbols `_write_sum_formula` writes, in its order -/
def hillSyms (syms : List Str) : List Str :=
  (if 0 < countOcc ['C'] syms then ['C'] :: (if 0 < countOcc ['H'] syms then [['H']] else []) else [])
    ++ Hill.hillKeys syms

namespace Hill

theorem formulaToks_cons (i : Str × Nat) (its : List (Str × Nat)) :
    formulaToks (i :: its)
      = Tok.lit i.1 :: ((if i.2 > 1 then [numTok (natRepr i.2)] else []) ++ formulaToks its) := by
  simp [formulaToks]

theorem numTok_text (ds : Str) : (numTok ds).text = ds := by
  unfold numTok; split <;> rfl

theorem numTok_natRepr (n : Nat) :
    numTok (natRepr n) = if n < 10 then Tok.lit [n.digitChar] else Tok.big (natRepr n) := by
  rw [natRepr_eq_toDigits, numTok]
  by_cases h : n < 10
  · rw [if_pos h, Nat.toDigits_of_lt_base h]
    rfl
  · have := Nat.length_toDigits_le_iff (b := 10) (n := n) (k := 1) (by omega) (by omega)
    rw [if_neg h, if_neg (by omega)]

theorem isGtOne_numTok (c : Nat) (hc : 2 ≤ c) : isGtOne (numTok (natRepr c)) = true := by
  rw [numTok_natRepr]
  split
  · next h =>
    have : ∀ d < 10, 2 ≤ d → isGtOne (Tok.lit [d.digitChar]) = true := by decide +kernel
    exact this c h hc
  · rfl

theorem leStr_antisymm (a b : Str) : leStr a b → leStr b a → a = b :=
  leStr_totalLE.antisymm a b

theorem countOcc_pos (s : Str) (l : List Str) : 0 < countOcc s l ↔ s ∈ l := by
  simp [countOcc, List.length_pos_iff_exists_mem]

theorem mem_hillKeys (syms : List Str) (k : Str) :
    k ∈ hillKeys syms ↔ k ∈ syms ∧ k ≠ ['C'] ∧ ¬ (0 < countOcc ['C'] syms ∧ k = ['H']) := by
  simp only [hillKeys, mem_dedupAdj, List.mem_mergeSort, List.mem_filter]
  simp only [Nat.pos_iff_ne_zero]
  by_cases h : countOcc ['C'] syms = 0 <;> simp [h]

theorem hillKeys_pairwise (syms : List Str) : (hillKeys syms).Pairwise (· < ·) :=
  dedupAdj_sort_strict _

theorem not_mem_hillKeys_H {syms : List Str} (hc : 0 < countOcc ['C'] syms) : ['H'] ∉ hillKeys syms :=
  fun h => ((mem_hillKeys _ _).1 h).2.2 ⟨hc, rfl⟩

theorem count_flatMap_replicate {α : Type} [BEq α] [LawfulBEq α] (c : α → Nat) (s : α) :
    ∀ ks : List α, ks.Nodup →
      List.count s (ks.flatMap fun k => List.replicate (c k) k) = if s ∈ ks then c s else 0
  | [], _ => by simp
  | k :: r, hnd => by
    rw [List.nodup_cons] at hnd
    rw [List.flatMap_cons, List.count_append, List.count_replicate, count_flatMap_replicate c s r hnd.2]
    by_cases hs : k = s
    · subst hs
      simp [hnd.1]
    · simp [hs, Ne.symm hs]

end Hill
open Hill

theorem optElems_formulaToks (order : List Str) (items : List (Str × Nat))
    (hsub : (items.map (·.1)).Sublist order) :
    OptElems order (formulaToks items) (items.map fun i => (i.1, countText i.2)) := by
  induction order generalizing items with
  | nil =>
    have : items = [] := by simpa using hsub
    subst this; exact .done _
  | cons e es ih =>
    cases items with
    | nil => exact .done _
    | cons i its =>
      obtain ⟨s, c⟩ := i
      simp only [List.map_cons] at hsub
      cases hsub with
      | cons _ h => exact .skip (ih _ (by simpa using h))
      | cons_cons _ h =>
        have := ih its h
        rw [formulaToks_cons]
        by_cases hc : c > 1
        · have := OptElems.counted (e := e) (isGtOne_numTok c hc) this
          rw [numTok_text] at this
          simpa [countText, hc] using this
        · simpa [countText, hc] using OptElems.plain (e := e) this

theorem writeSumFormula_eq (g : Graph) :
    writeSumFormula g = formulaText (hillItems (g.nodes.filterMap (·.attrs.sym))) := by
  simp only [writeSumFormula, hillItems, formulaText, List.map_append, List.flatten_append]
  refine congr (congrArg _ ?_) ?_
  · by_cases hc : countOcc ['C'] (g.nodes.filterMap (·.attrs.sym)) > 0 <;>
      by_cases hh : countOcc ['H'] (g.nodes.filterMap (·.attrs.sym)) > 0 <;> simp [hc, hh]
  · simp only [List.map_map, Function.comp_def]

theorem hillItems_eq (syms : List Str) :
    hillItems syms = (hillSyms syms).map fun k => (k, countOcc k syms) := by
  simp only [hillItems, hillSyms, hillKeys, List.map_append]
  congr 1
  by_cases hc : 0 < countOcc ['C'] syms <;> by_cases hh : 0 < countOcc ['H'] syms <;> simp [hc, hh]

theorem hillItems_fst (syms : List Str) : (hillItems syms).map (·.1) = hillSyms syms := by
  rw [hillItems_eq, List.map_map]
  exact List.map_id _

theorem mem_hillSyms {syms : List Str} {s : Str} : s ∈ hillSyms syms ↔ s ∈ syms := by
  simp only [hillSyms, List.mem_append, mem_hillKeys, List.mem_ite_nil_right, List.mem_cons, countOcc_pos]
  by_cases hC : s = ['C']
  · subst hC; simp
  · by_cases hH : s = ['H']
    · subst hH; by_cases h : ['C'] ∈ syms <;> simp [h]
    · simp [hC, hH]

theorem hillItems_count {syms : List Str} {i : Str × Nat} (hi : i ∈ hillItems syms) :
    1 ≤ i.2 ∧ i.2 = countOcc i.1 syms := by
  rw [hillItems_eq] at hi
  obtain ⟨k, hk, rfl⟩ := List.mem_map.mp hi
  exact ⟨(countOcc_pos _ _).mpr (mem_hillSyms.mp hk), rfl⟩

theorem mem_hillItems_fst {syms : List Str} {s : Str} : s ∈ (hillItems syms).map (·.1) ↔ s ∈ syms := by
  rw [hillItems_fst]
  exact mem_hillSyms

theorem hillSyms_hillOrder (syms : List Str) : IsHillOrder (hillSyms syms) := by
  have hK := hillKeys_pairwise syms
  have hN : (hillKeys syms).Nodup := hK.imp Std.ne_of_lt
  have hC : ['C'] ∉ hillKeys syms := fun h => ((mem_hillKeys _ _).1 h).2.1 rfl
  rw [hillSyms]
  by_cases hc : 0 < countOcc ['C'] syms
  · have hH := not_mem_hillKeys_H hc
    -- the keys after the head hold neither `C` nor `H`
    have hf : (hillKeys syms).filter (fun s => s != ['C'] && s != ['H']) = hillKeys syms :=
      List.filter_eq_self.2 fun a ha => by simp [ne_of_mem_of_not_mem ha hC, ne_of_mem_of_not_mem ha hH]
    by_cases hh : 0 < countOcc ['H'] syms
    · rw [if_pos hc, if_pos hh]
      exact ⟨by simp [hC, hH, hN], fun _ => ⟨_, rfl, fun _ => ⟨_, rfl⟩⟩, by simpa [hf] using hK⟩
    · rw [if_pos hc, if_neg hh]
      exact ⟨by simp [hC, hN], fun _ => ⟨_, rfl, fun h => absurd h hH⟩, by simpa [hf] using hK⟩
  · rw [if_neg hc, List.nil_append]
    exact ⟨hN, fun h => absurd h hC, by rw [if_neg hC]; exact hK⟩

theorem hill_perm (syms : List Str) :
    ((hillItems syms).flatMap fun i => List.replicate i.2 i.1).Perm syms := by
  rw [hillItems_eq, List.flatMap_map, List.perm_iff_count]
  intro s
  rw [count_flatMap_replicate (fun k => countOcc k syms) s _ (hillSyms_hillOrder syms).nodup]
  split
  · rw [List.count_eq_length_filter]; rfl
  · next hn => exact (List.count_eq_zero.mpr (mt mem_hillSyms.2 hn)).symm

/-- **The writer's formula is a derivation of the grammar's `sum_formula`, for every multiset of symbols of the 118
elements.** -/
theorem sumFormula_hillItems (syms : List Str) (hel : ∀ s ∈ syms, s ∈ elementSyms) :
    SumFormula (formulaToks (hillItems syms)) ((hillItems syms).map fun i => (i.1, countText i.2)) := by
  -- the sorted rest is a sub-sequence of every ascending list of element symbols without `C` (and `H`)
  have hkeys : ∀ {o : List Str}, o.Pairwise (· < ·) → (∀ k ∈ hillKeys syms, k ∈ o) → (hillKeys syms).Sublist o :=
    fun ho h => List.sublist_of_pairwise_lt (hillKeys_pairwise syms) ho h
  have hwo : ∀ k ∈ hillKeys syms, k ∈ withoutCarbonOrder := fun k hk =>
    (mem_withoutCarbonOrder k).2 ⟨hel k ((mem_hillKeys _ _).1 hk).1, ((mem_hillKeys _ _).1 hk).2.1⟩
  by_cases hc : 0 < countOcc ['C'] syms
  · -- `C count?` is mandatory, the items after it are a sub-sequence of the rest of `with_carbon`
    have hsub := hkeys (withoutCarbonOrder_pairwise.filter (· != ['H'])) fun k hk =>
      List.mem_filter.2 ⟨hwo k hk, by simpa using fun e : k = ['H'] => not_mem_hillKeys_H hc (e ▸ hk)⟩
    obtain ⟨tail, he, hsub⟩ : ∃ tail, hillItems syms = (['C'], countOcc ['C'] syms) :: tail ∧
        (tail.map (·.1)).Sublist (['H'] :: withoutCarbonOrder.filter (· != ['H'])) := by
      refine ⟨_, by rw [hillItems_eq, hillSyms, if_pos hc]; rfl, ?_⟩
      by_cases hh : countOcc ['H'] syms > 0
      · simpa [hh, List.map_map, Function.comp_def] using hsub.cons_cons ['H']
      · simpa [hh, List.map_map, Function.comp_def] using hsub.cons ['H']
    rw [he]
    have ho := optElems_formulaToks _ tail hsub
    rw [formulaToks_cons]
    by_cases hc1 : countOcc ['C'] syms > 1
    · have := SumFormula.withCarbonCounted withCarbonOrder_eq (isGtOne_numTok _ hc1) ho
      rw [numTok_text] at this
      simpa [countText, hc1] using this
    · simpa [countText, hc1] using SumFormula.withCarbon withCarbonOrder_eq ho
  · refine .withoutCarbon (optElems_formulaToks _ _ ?_)
    rw [hillItems_fst, hillSyms, if_neg hc]
    exact hkeys withoutCarbonOrder_pairwise hwo

end Tucan
