import TucanProofs.Lemmas.NxRelabel
import TucanProofs.Lemmas.Basics.List
import TucanProofs.Lemmas.Basics.PyM
/-!
# networkx container lemmas III: `graph_from_molecule`

`graphFromMolecule atoms bonds` builds the graph from an atom dictionary and a bond dictionary and
renumbers the nodes consecutively (`convert_node_labels_to_integers`): the atom listed at position `i`
becomes node `i`, a bond between two keys becomes a bond between their positions.  The keys may be sparse,
large or in any order (the V3000 reader keys atoms by the index written in the file), and a pair of atoms
may be listed again, in either orientation, with the same record (the parser does).  Dictionaries with keys
`0 … n-1` in order, as the V2000 reader and the parser produce them, are the case where position and key
coincide.
-/
namespace Tucan

/-- position of a key in the atom dictionary -/
def keyPos (atoms : List (Int × Atom)) (k : Int) : Option Nat := indexOf? k (atoms.map (·.1))

/-- bonds between two different existing keys, no unordered pair twice -/
def GoodKeyBonds (atoms : List (Int × Atom)) (bonds : List ((Int × Int) × Bond)) : Prop :=
  (∀ b ∈ bonds, (keyPos atoms b.1.1).isSome ∧ (keyPos atoms b.1.2).isSome ∧ b.1.1 ≠ b.1.2) ∧
  (bonds.map fun b => if b.1.1 ≤ b.1.2 then (b.1.1, b.1.2) else (b.1.2, b.1.1)).Nodup

theorem keyPos_eq_some_iff {atoms : List (Int × Atom)} (hk : (atoms.map (·.1)).Nodup) {k : Int} {i : Nat} :
    keyPos atoms k = some i ↔ (atoms.map (·.1))[i]? = some k :=
  indexOf?_eq_some_iff hk

theorem keyPos_of_keys {atoms : List (Int × Atom)} {n : Nat} {κ : Nat → Int}
    (hk : atoms.map (·.1) = (List.range n).map κ) (hκ : ∀ i < n, ∀ j < n, κ i = κ j → i = j) :
    (atoms.map (·.1)).Nodup ∧ ∀ {k : Int} {i : Nat}, keyPos atoms k = some i ↔ i < n ∧ k = κ i := by
  have hnd : (atoms.map (·.1)).Nodup :=
    hk ▸ List.nodup_range.map_on κ fun i hi j hj => hκ i (List.mem_range.1 hi) j (List.mem_range.1 hj)
  refine ⟨hnd, ?_⟩
  intro k i
  rw [keyPos_eq_some_iff hnd, hk, List.getElem?_eq_some_iff]
  simp [eq_comm]

theorem keyPos_isSome {atoms : List (Int × Atom)} {k : Int} : (keyPos atoms k).isSome ↔ k ∈ atoms.map (·.1) := by
  rw [keyPos, indexOf?_eq_idxOf?, List.isSome_idxOf?]

namespace GFM
open Graph

/-- the edge with its record blanked (first pass: `add_edges_from(bonds.keys())`) -/
def blank : Nat × Nat × Bond → Nat × Nat × Bond := fun (u, v, _) => (u, v, {})

theorem norm_blank (e : Nat × Nat × Bond) : NxE.norm (blank e) = NxE.norm e := rfl

theorem twoPass {L : List Nat} {A : Nat → Option Atom} (es : List (Nat × Nat × Bond)) (h : Graph)
    (inv : NxE.Inv L A h []) (hes : ∀ e ∈ es, e.1 ∈ L ∧ e.2.1 ∈ L)
    (hco : ∀ t ∈ es, ∀ t' ∈ es, NxE.Joins t t'.1 t'.2.1 → t.2.2 = t'.2.2) :
    NxE.Inv L A (es.foldl (fun h (u, v, d) => h.addEdge u v d)
      ((es.map blank).foldl (fun h (u, v, d) => h.addEdge u v d) h)) es := by
  have i1 := inv.foldl (es.map blank) (List.forall_mem_map.2 hes)
    (List.forall_mem_map.2 fun _ _ => List.forall_mem_map.2 fun _ _ _ => rfl) fun _ h => nomatch h
  exact i1.foldl es hes hco (List.forall_mem_map.2 fun t ht => ⟨rfl, t, ht, Or.inl ⟨rfl, rfl⟩⟩)

/-- what `addInvariantCode` returns when it succeeds -/
def inv' (a : Atom) : Atom := { a with inv := some [a.z.getD 0, a.mass.getD 0, a.rad.getD 0] }

theorem addInvariantCode_ok {a : Atom} (h : a.z.isSome) : addInvariantCode a = .ok (inv' a) := by
  unfold addInvariantCode inv'
  cases hz : a.z with
  | none => simp [hz] at h
  | some z => simp

theorem addIfMissing_of_mem {k : Int} {ks : List Int} (h : k ∈ ks) : addIfMissing k ks = ks :=
  if_pos (List.contains_iff_mem.2 h)

theorem allKeys_eq (bonds : List ((Int × Int) × Bond)) (ks : List Int)
    (h : ∀ b ∈ bonds, b.1.1 ∈ ks ∧ b.1.2 ∈ ks) :
    bonds.foldl (fun ks ((u, v), _) => addIfMissing v (addIfMissing u ks)) ks = ks := by
  induction bonds with
  | nil => rfl
  | cons b r ih =>
    obtain ⟨hu, hv⟩ := h b List.mem_cons_self
    rw [List.foldl_cons]
    show List.foldl _ (addIfMissing b.1.2 (addIfMissing b.1.1 ks)) r = ks
    rw [addIfMissing_of_mem hu, addIfMissing_of_mem hv]
    exact ih fun b hb => h b (List.mem_cons_of_mem _ hb)

/-- the bond dictionary as a list of edges between positions -/
def posEdges (atoms : List (Int × Atom)) (bonds : List ((Int × Int) × Bond)) : List (Nat × Nat × Bond) :=
  bonds.map fun b => ((keyPos atoms b.1.1).getD 0, (keyPos atoms b.1.2).getD 0, b.2)

/-- `graphFromMolecule` written out, when every atom carries an atomic number (no `KeyError`) and every bond joins
listed keys (`allKeys` adds none) -/
theorem graphFromMolecule_eq (atoms : List (Int × Atom)) (bonds : List ((Int × Int) × Bond))
    (hz : ∀ a ∈ atoms, a.2.z.isSome)
    (hb : ∀ b ∈ bonds, b.1.1 ∈ atoms.map (·.1) ∧ b.1.2 ∈ atoms.map (·.1)) :
    graphFromMolecule atoms bonds = .ok
      (Graph.relabelCopy ((posEdges atoms bonds).foldl (fun h (u, v, d) => h.addEdge u v d)
        (((posEdges atoms bonds).map blank).foldl (fun h (u, v, d) => h.addEdge u v d)
          ⟨atoms.map fun p => ⟨(keyPos atoms p.1).getD 0, inv' p.2, []⟩⟩)) [],
        atoms.map fun p => (p.1, inv' p.2)) := by
  have hmap : atoms.mapM (fun (k, a) => do let a' ← addInvariantCode a; pure (k, a'))
      = .ok (atoms.map fun p => (p.1, inv' p.2)) :=
    PyM.mapM_eq_ok_map (fun (p : Int × Atom) => (p.1, inv' p.2)) fun (k, a) hp => by
      have := addInvariantCode_ok (hz (k, a) hp)
      simp only at this ⊢
      rw [this]
      rfl
  have hkeys : (atoms.map fun p => (p.1, inv' p.2)).map (·.1) = atoms.map (·.1) := by
    rw [List.map_map]; rfl
  unfold graphFromMolecule posEdges
  rw [hmap, PyM.ok_bind]
  simp only [hkeys, allKeys_eq bonds _ hb, List.foldl_map, List.map_map]
  rfl

end GFM

/-- what `graph_from_molecule` makes of the dictionaries: node `i` is the atom listed at position `i` with its
invariant code, a bond between two keys is a bond between their positions, with its record.  `ToGraphSpec`, `IsGraphOf`
and `ReadBack` say this of the parser's, a molecule's and the writer's dictionaries, each in its own vocabulary. -/
structure GFM.Renumbers (atoms : List (Int × Atom)) (bonds : List ((Int × Int) × Bond)) (g : Graph) : Prop where
  labels : g.labels = List.range atoms.length
  wf : g.WF
  simple : g.Simple
  attrs : ∀ i (hi : i < atoms.length), g.attrs? i = some (GFM.inv' (atoms[i]).2)
  nbrs : ∀ i j d, (j, d) ∈ g.nbrsD i ↔
    ∃ k l, keyPos atoms k = some i ∧ keyPos atoms l = some j ∧ (((k, l), d) ∈ bonds ∨ ((l, k), d) ∈ bonds)

/-- **Consecutive renumbering in listing order**, for a bond dictionary that may list a pair of atoms
several times, in either orientation, as long as it is with the same record. -/
theorem graphFromMolecule_of_consistent (atoms : List (Int × Atom)) (bonds : List ((Int × Int) × Bond))
    (hk : (atoms.map (·.1)).Nodup)
    (hb1 : ∀ b ∈ bonds, (keyPos atoms b.1.1).isSome ∧ (keyPos atoms b.1.2).isSome ∧ b.1.1 ≠ b.1.2)
    (hco : ∀ b ∈ bonds, ∀ b' ∈ bonds,
      (b.1.1 = b'.1.1 ∧ b.1.2 = b'.1.2) ∨ (b.1.1 = b'.1.2 ∧ b.1.2 = b'.1.1) → b.2 = b'.2)
    (hz : ∀ a ∈ atoms, a.2.z.isSome) :
    ∃ g post, graphFromMolecule atoms bonds = .ok (g, post) ∧ GFM.Renumbers atoms bonds g := by
  have hat : ∀ {k i}, keyPos atoms k = some i → (atoms.map (·.1))[i]? = some k := (keyPos_eq_some_iff hk).1
  have hlt : ∀ {k i}, keyPos atoms k = some i → i < atoms.length := fun h =>
    List.length_map (as := atoms) _ ▸ (List.getElem?_eq_some_iff.1 (hat h)).1
  have hinj : ∀ {k l i}, keyPos atoms k = some i → keyPos atoms l = some i → k = l := fun h h' =>
    Option.some.inj ((hat h).symm.trans (hat h'))
  have hidx : ∀ {k i}, keyPos atoms k = some i → (keyPos atoms k).getD 0 = i := fun h =>
    congrArg (·.getD 0) h
  have hsome : ∀ {k}, (keyPos atoms k).isSome → keyPos atoms k = some ((keyPos atoms k).getD 0) := fun h => by
    obtain ⟨i, hi⟩ := Option.isSome_iff_exists.1 h
    rw [hi]; rfl
  have heq := GFM.graphFromMolecule_eq atoms bonds hz fun b hb =>
    ⟨keyPos_isSome.1 (hb1 b hb).1, keyPos_isSome.1 (hb1 b hb).2.1⟩
  have hidxN : ∀ i (hi : i < atoms.length), (keyPos atoms (atoms[i]).1).getD 0 = i :=
    fun i hi => hidx ((keyPos_eq_some_iff hk).2 (by simp [hi]))
  -- `g0`: the nodes as `add_nodes_from` creates them, atom `i` at label `i`, no edges yet
  generalize hg0 : (⟨atoms.map fun p =>
    ⟨(keyPos atoms p.1).getD 0, GFM.inv' p.2, []⟩⟩ : Graph) = g0 at heq
  have hl0 : g0.labels = List.range atoms.length := by
    subst hg0
    refine List.ext_getElem (by simp [Graph.labels]) fun i h1 h2 => ?_
    simp only [Graph.labels, List.length_map] at h1
    simp only [Graph.labels, List.getElem_map, List.getElem_range]
    exact hidxN i h1
  have hnd0 : g0.labels.Nodup := hl0 ▸ List.nodup_range
  have ha0 : ∀ i (hi : i < atoms.length), g0.attrs? i = some (GFM.inv' (atoms[i]).2) := fun i hi => by
    have := NxE.attrs?_of_mem hnd0 (n := ⟨(keyPos atoms (atoms[i]).1).getD 0, GFM.inv' (atoms[i]).2, []⟩)
      (by subst hg0; exact List.mem_map.2 ⟨atoms[i], List.getElem_mem hi, rfl⟩)
    rwa [hidxN i hi] at this
  have hn0 : ∀ x, g0.nbrsD x = [] :=
    NxE.nbrsD_eq_nil_of (by subst hg0; exact List.forall_mem_map.2 fun _ _ => rfl)
  have inv0 : NxE.Inv (List.range atoms.length) g0.attrs? g0 [] := hl0 ▸ NxE.Inv.of_nil hn0
  -- `pe`: the bonds as edges between positions; each comes from a listed bond (`hkey`), each listed bond is there (`hmk`)
  generalize hpe : GFM.posEdges atoms bonds = pe at heq
  have hkey : ∀ t ∈ pe, ∃ k l,
      keyPos atoms k = some t.1 ∧ keyPos atoms l = some t.2.1 ∧ ((k, l), t.2.2) ∈ bonds := by
    subst hpe
    exact List.forall_mem_map.2 fun b hb => ⟨_, _, hsome (hb1 b hb).1, hsome (hb1 b hb).2.1, hb⟩
  have hmk : ∀ {k l i j d}, keyPos atoms k = some i → keyPos atoms l = some j → ((k, l), d) ∈ bonds →
      (i, j, d) ∈ pe := fun hi hj hb =>
    hpe ▸ List.mem_map.2 ⟨_, hb, by rw [hidx hi, hidx hj]⟩
  have hes : ∀ e ∈ pe, e.1 ∈ List.range atoms.length ∧ e.2.1 ∈ List.range atoms.length := fun e he => by
    obtain ⟨k, l, hi, hj, -⟩ := hkey e he
    exact ⟨List.mem_range.2 (hlt hi), List.mem_range.2 (hlt hj)⟩
  have hne : ∀ e ∈ pe, e.1 ≠ e.2.1 := fun e he hc => by
    obtain ⟨k, l, hi, hj, hb⟩ := hkey e he
    exact (hb1 _ hb).2.2 (hinj hi (hc ▸ hj))
  have hcoE : ∀ t ∈ pe, ∀ t' ∈ pe, NxE.Joins t t'.1 t'.2.1 → t.2.2 = t'.2.2 := fun t ht t' ht' hj => by
    obtain ⟨k, l, hi, hj1, hb⟩ := hkey t ht
    obtain ⟨k', l', hi', hj1', hb'⟩ := hkey t' ht'
    refine hco _ hb _ hb' (hj.imp (fun h => ?_) (fun h => ?_))
    · exact ⟨hinj hi (h.1 ▸ hi'), hinj hj1 (h.2 ▸ hj1')⟩
    · exact ⟨hinj hi (h.1 ▸ hj1'), hinj hj1 (h.2 ▸ hi')⟩
  -- the two `add_edges_from` passes give `g2`; `convert_node_labels_to_integers` is then a `relabelCopy` by the identity
  have inv2 := GFM.twoPass _ g0 inv0 hes hcoE
  generalize pe.foldl (fun h (u, v, d) => h.addEdge u v d)
    ((pe.map GFM.blank).foldl (fun h (u, v, d) => h.addEdge u v d) g0) = g2 at heq inv2
  have hw2 := inv2.wf List.nodup_range hes
  obtain ⟨rl, hlg⟩ := Graph.relabelCopy_spec g2 [] hw2 (fun a _ b _ h => h)
  have hid : Graph.mapGet [] = id := rfl
  rw [hid] at rl
  rw [hid, List.map_id, inv2.labels] at hlg
  refine ⟨_, _, heq, hlg, rl.wf hw2, rl.simple hw2 (inv2.simple List.nodup_range hne), fun i hi => ?_, fun i j d => ?_⟩
  · have := rl.attrs i (by rw [inv2.labels]; exact List.mem_range.2 hi)
    rw [id] at this
    rw [this, inv2.attrs, ha0 i hi]
  · rw [(rl.nbrsD_id i).mem_iff, inv2.nbrs]
    constructor
    · rintro (h | h) <;> obtain ⟨k, l, hi, hj, hb⟩ := hkey _ h
      · exact ⟨k, l, hi, hj, Or.inl hb⟩
      · exact ⟨l, k, hj, hi, Or.inr hb⟩
    · rintro ⟨k, l, hi, hj, hb | hb⟩
      · exact Or.inl (hmk hi hj hb)
      · exact Or.inr (hmk hj hi hb)

theorem graphFromMolecule_keys (atoms : List (Int × Atom)) (bonds : List ((Int × Int) × Bond))
    (hk : (atoms.map (·.1)).Nodup) (hb : GoodKeyBonds atoms bonds) (hz : ∀ a ∈ atoms, a.2.z.isSome) :
    ∃ g post, graphFromMolecule atoms bonds = .ok (g, post) ∧ GFM.Renumbers atoms bonds g :=
  graphFromMolecule_of_consistent atoms bonds hk hb.1
    (fun b hm b' hm' hj => by rw [hb.2.inj_on_of_map b hm b' hm' (orderedPair_eq_iff.2 hj)]) hz

theorem graphFromMolecule_consecutive (atoms : List (Int × Atom)) (bonds : List ((Int × Int) × Bond)) {n : Nat}
    (hk : atoms.map (·.1) = (List.range n).map fun (i : Nat) => (i : Int))
    (hb1 : ∀ b ∈ bonds, 0 ≤ b.1.1 ∧ b.1.1 < n ∧ 0 ≤ b.1.2 ∧ b.1.2 < n ∧ b.1.1 ≠ b.1.2)
    (hco : ∀ b ∈ bonds, ∀ b' ∈ bonds,
      (b.1.1 = b'.1.1 ∧ b.1.2 = b'.1.2) ∨ (b.1.1 = b'.1.2 ∧ b.1.2 = b'.1.1) → b.2 = b'.2)
    (hz : ∀ a ∈ atoms, a.2.z.isSome) :
    ∃ g post, graphFromMolecule atoms bonds = .ok (g, post) ∧ GFM.Renumbers atoms bonds g ∧
      ∀ i j d, (j, d) ∈ g.nbrsD i ↔
        (((i : Int), (j : Int)), d) ∈ bonds ∨ (((j : Int), (i : Int)), d) ∈ bonds := by
  obtain ⟨hnd, hpos⟩ := keyPos_of_keys hk fun _ _ _ _ => Int.ofNat.inj
  have hsome : ∀ {k : Int}, 0 ≤ k → k < n → (keyPos atoms k).isSome := fun h0 h1 => by
    obtain ⟨i, rfl⟩ := Int.eq_ofNat_of_zero_le h0
    rw [hpos.2 ⟨Int.ofNat_lt.1 h1, rfl⟩]
    rfl
  obtain ⟨g, post, hok, r⟩ := graphFromMolecule_of_consistent atoms bonds hnd
    (fun b hm => ⟨hsome (hb1 b hm).1 (hb1 b hm).2.1, hsome (hb1 b hm).2.2.1 (hb1 b hm).2.2.2.1, (hb1 b hm).2.2.2.2⟩)
    hco hz
  refine ⟨g, post, hok, r, fun i j d => (r.nbrs i j d).trans ⟨?_, fun h => ?_⟩⟩
  · rintro ⟨k, l, hi, hj, h⟩
    obtain ⟨-, rfl⟩ := hpos.1 hi
    obtain ⟨-, rfl⟩ := hpos.1 hj
    exact h
  · have hij : i < n ∧ j < n :=
      h.elim (fun h => ⟨Int.ofNat_lt.1 (hb1 _ h).2.1, Int.ofNat_lt.1 (hb1 _ h).2.2.2.1⟩)
        (fun h => ⟨Int.ofNat_lt.1 (hb1 _ h).2.2.2.1, Int.ofNat_lt.1 (hb1 _ h).2.1⟩)
    exact ⟨i, j, hpos.2 ⟨hij.1, rfl⟩, hpos.2 ⟨hij.2, rfl⟩, h⟩

end Tucan
