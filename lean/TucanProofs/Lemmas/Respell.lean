import TucanProofs.Lemmas.AcceptIff
import TucanProofs.Lemmas.AstDenotation
/-!
# Respelling, at the level of strings: what two syntax trees have in common

`SameMeaning`: the same formula, the same set of bonded pairs (tuples in any order, endpoints either way round, a
tuple any number of times), the same attribute settings (blocks in any order, split or merged, properties in any
order).  `SameMeaningUpTo π`: the second tree may also number the atoms differently, as long as the renumbering `π`
keeps every atom inside its element block.  Two such strings parse to the same molecule (`Iso SameIdent π`:
`respelling_iso_perm`); that they therefore normalize to the same canonical string is `C11_renumbered_strings`.
-/
namespace Tucan

structure SameMeaning (a b : Ast) : Prop where
  formula : a.formula = b.formula
  bonds : ∀ i j : Nat,
    (∃ p ∈ a.tuples, (litVal p.1 = i ∧ litVal p.2 = j) ∨ (litVal p.1 = j ∧ litVal p.2 = i)) ↔
    (∃ p ∈ b.tuples, (litVal p.1 = i ∧ litVal p.2 = j) ∨ (litVal p.1 = j ∧ litVal p.2 = i))
  settings : ∀ x, x ∈ a.valuedSettings ↔ x ∈ b.valuedSettings

theorem bonds_sub {s t : List (Str × Str)}
    (h : ∀ p ∈ s, ∃ q ∈ t, (litVal q.1 = litVal p.1 ∧ litVal q.2 = litVal p.2) ∨
      (litVal q.1 = litVal p.2 ∧ litVal q.2 = litVal p.1)) (i j : Nat) :
    (∃ p ∈ s, (litVal p.1 = i ∧ litVal p.2 = j) ∨ (litVal p.1 = j ∧ litVal p.2 = i)) →
    ∃ p ∈ t, (litVal p.1 = i ∧ litVal p.2 = j) ∨ (litVal p.1 = j ∧ litVal p.2 = i) := by
  rintro ⟨p, hp, ⟨rfl, rfl⟩ | ⟨rfl, rfl⟩⟩
  · exact h p hp
  · exact (h p hp).imp fun _ h => ⟨h.1, h.2.symm⟩

/-- `SameMeaning` from facts about the lists of the two trees, each decidable by evaluation -/
theorem SameMeaning.of_lists {a b : Ast} (hf : a.formula = b.formula)
    (hab : ∀ p ∈ a.tuples, ∃ q ∈ b.tuples, (litVal q.1 = litVal p.1 ∧ litVal q.2 = litVal p.2) ∨
      (litVal q.1 = litVal p.2 ∧ litVal q.2 = litVal p.1))
    (hba : ∀ p ∈ b.tuples, ∃ q ∈ a.tuples, (litVal q.1 = litVal p.1 ∧ litVal q.2 = litVal p.2) ∨
      (litVal q.1 = litVal p.2 ∧ litVal q.2 = litVal p.1))
    (hs : ∀ x ∈ a.valuedSettings, x ∈ b.valuedSettings) (hs' : ∀ x ∈ b.valuedSettings, x ∈ a.valuedSettings) :
    SameMeaning a b :=
  ⟨hf, fun i j => ⟨bonds_sub hab i j, bonds_sub hba i j⟩, fun x => ⟨hs x, hs' x⟩⟩

/-- the second tree says what the first says, with atom position `i` renumbered `π i` (0-based positions; the
indices written in the strings are positions + 1) -/
structure SameMeaningUpTo (π : Nat → Nat) (a b : Ast) : Prop where
  formula : a.formula = b.formula
  range : ∀ i, i < a.atomCount → π i < a.atomCount
  inj : ∀ i j, i < a.atomCount → j < a.atomCount → π i = π j → i = j
  /-- `π` moves atoms only inside element blocks -/
  block : ∀ i, i < a.atomCount → a.sortedSymbols[π i]? = a.sortedSymbols[i]?
  bonds : ∀ i j, i < a.atomCount → j < a.atomCount →
    ((∃ p ∈ a.tuples, (litVal p.1 = i + 1 ∧ litVal p.2 = j + 1) ∨ (litVal p.1 = j + 1 ∧ litVal p.2 = i + 1)) ↔
     (∃ p ∈ b.tuples, (litVal p.1 = π i + 1 ∧ litVal p.2 = π j + 1) ∨
        (litVal p.1 = π j + 1 ∧ litVal p.2 = π i + 1)))
  settings : ∀ i, i < a.atomCount → ∀ (k : Str) (v : Nat),
    (i + 1, k, v) ∈ a.valuedSettings ↔ (π i + 1, k, v) ∈ b.valuedSettings

/-- `SameMeaningUpTo` from facts with bounded quantifiers only, each decidable by evaluation once the sorted
symbols are known -/
theorem SameMeaningUpTo.of_lists {π : Nat → Nat} {a b : Ast} (formula : a.formula = b.formula)
    (range : ∀ i, i < a.atomCount → π i < a.atomCount)
    (inj : ∀ i, i < a.atomCount → ∀ j, j < a.atomCount → π i = π j → i = j)
    (block : ∀ i, i < a.atomCount → a.sortedSymbols[π i]? = a.sortedSymbols[i]?)
    (bonds : ∀ i, i < a.atomCount → ∀ j, j < a.atomCount →
      ((∃ p ∈ a.tuples, (litVal p.1 = i + 1 ∧ litVal p.2 = j + 1) ∨ (litVal p.1 = j + 1 ∧ litVal p.2 = i + 1)) ↔
       (∃ p ∈ b.tuples, (litVal p.1 = π i + 1 ∧ litVal p.2 = π j + 1) ∨
          (litVal p.1 = π j + 1 ∧ litVal p.2 = π i + 1))))
    (hab : ∀ i, i < a.atomCount → ∀ x ∈ a.valuedSettings, x.1 = i + 1 → ∃ y ∈ b.valuedSettings, y = (π i + 1, x.2))
    (hba : ∀ i, i < a.atomCount → ∀ y ∈ b.valuedSettings, y.1 = π i + 1 → ∃ x ∈ a.valuedSettings, x = (i + 1, y.2)) :
    SameMeaningUpTo π a b :=
  ⟨formula, range, fun i j hi hj => inj i hi j hj, block, fun i j hi hj => bonds i hi j hj, fun i hi _ _ =>
    ⟨fun h => let ⟨_, hy, e⟩ := hab i hi _ h rfl; e ▸ hy, fun h => let ⟨_, hx, e⟩ := hba i hi _ h rfl; e ▸ hx⟩⟩

/-- not conversely: `SameMeaning` speaks of all indices, `SameMeaningUpTo` only of those below the atom count -/
theorem SameMeaning.upTo_id {a b : Ast} (h : SameMeaning a b) : SameMeaningUpTo id a b :=
  ⟨h.formula, fun _ hi => hi, fun _ _ _ _ e => e, fun _ _ => rfl, fun i j _ _ => h.bonds (i + 1) (j + 1),
    fun i _ k v => h.settings (i + 1, k, v)⟩

theorem respelling_iso_perm {π : Nat → Nat} {s s' : Str} {toks toks' : List Tok} {ast ast' : Ast} {g g' : Graph}
    (hl : lex s = some toks) (hsen : Sentence toks ast) (hl' : lex s' = some toks') (hsen' : Sentence toks' ast')
    (same : SameMeaningUpTo π ast ast') (hg : graphFromTucan s = .ok g) (hg' : graphFromTucan s' = .ok g') :
    Iso SameIdent π g g' ∧ g.Chem ∧ g.WF ∧ g.Simple ∧ g'.WF ∧ g'.Simple := by
  have d := denotes_of_sentence hl hsen hg
  have d' := denotes_of_sentence hl' hsen' hg'
  have hn : ast'.atomCount = ast.atomCount := by unfold Ast.atomCount; rw [same.formula]
  have hss : ast'.sortedSymbols = ast.sortedSymbols := by
    unfold Ast.sortedSymbols Ast.expansion; rw [same.formula]
  refine ⟨Iso.of_range (.of_eq d.labels) (.of_eq (hn ▸ d'.labels)) d.wf d'.wf same.range same.inj (fun a ha => ?_)
      fun a b ha hb => (d.adj a b).trans ((same.bonds a b ha hb).trans (d'.adj (π a) (π b)).symm),
    (d.molAtoms (Acc.sentence_ok hl hsen).attrs).chem, d.wf, d.simple, d'.wf, d'.simple⟩
  have h1 : a < ast.sortedSymbols.length := by rw [ast.sortedSymbols_length]; exact ha
  have h2 : π a < ast'.sortedSymbols.length := by rw [hss, ast.sortedSymbols_length]; exact same.range a ha
  obtain ⟨x, z, hx, hxs, hez, hxz⟩ := d.elems a h1
  obtain ⟨y, z', hy, hys, hez', hyz⟩ := d'.elems (π a) h2
  obtain ⟨hm, hr, _⟩ := d.attrs a x hx
  obtain ⟨hm', hr', _⟩ := d'.attrs (π a) y hy
  -- `π` stays inside the element block
  have e : ast.sortedSymbols[a]? = ast'.sortedSymbols[π a]? := by rw [hss]; exact (same.block a ha).symm
  rw [List.getElem?_eq_getElem h1, List.getElem?_eq_getElem h2] at e
  rw [← Option.some.inj e, hez] at hez'
  cases hez'
  have hmass : x.mass = y.mass := Option.ext fun v => (hm v).trans
    ((exists_congr fun w => and_congr_right fun _ => same.settings a ha _ w).trans (hm' v).symm)
  have hrad : x.rad = y.rad := Option.ext fun v => (hr v).trans
    ((exists_congr fun w => and_congr_right fun _ => same.settings a ha _ w).trans (hr' v).symm)
  exact ⟨x, y, hx, hy, hxz.trans hyz.symm, by rw [hxs, hys, Option.some.inj e], hmass, hrad,
    by rw [(d.code a x hx).2, (d'.code _ y hy).2, hxz, hyz, hmass, hrad]⟩

end Tucan
