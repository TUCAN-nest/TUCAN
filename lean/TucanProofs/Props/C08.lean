import TucanProofs.Lemmas.V2000
import TucanProofs.Lemmas.V2000File
import TucanProofs.Lemmas.Files
import TucanProofs.Lemmas.FilesExample
import TucanProofs.Lemmas.MoreExamples
/-!
# C08 — the V2000 reader agrees with V3000 on the same molecule

About the V2000 reader model: fixed-column fields, property lines with any number of entries, the
supersession rules, the charge-code table.  The whole reader (`graphAttributesV2000`) is tied to the code
by the correspondence on rendered V2000/V3000 pairs, and the probe compares both real readers with the
abstract molecule and with each other.

Scope of the agreement theorem (`C08_readers_agree`, through `V2States`): the mass-difference field of the atom
block is ` 0`; when `M  CHG` / `M  RAD` / `M  ISO` lines are used, each atom with a value is named exactly once
(`C08_readers_agree_repeated_entries` / `C08_same_string_repeated_entries` lift that: an atom may be named any number
of times, the last entry naming it counts and a last entry 0 revokes); coordinates agree up to their spelling.  `RendersAll`, the hypothesis
about the property block, is defined through the reader's line parser; `C08_block_written_in_columns` discharges
it for every block laid out in the specification's fixed columns.
-/
namespace Tucan

/-- fixed-width integer fields (`"%3d"`) read back; a blank field is 0 -/
theorem C08_fixed_width_fields (i : Int) (h : (intRepr i).length ≤ 3) (k : Nat) :
    toIntV2000 (pad3 i) = .ok i ∧ toIntV2000 (List.replicate k ' ') = .ok 0 :=
  ⟨toIntV2000_pad3 i h, toIntV2000_blank k⟩

/-- **`M  CHG` / `M  RAD` / `M  ISO` lines are decoded entry by entry, whatever the number of entries per
line** (column offsets of the 3rd … 8th entry included): every `(atom, value)` pair comes back, in order. -/
theorem C08_property_line_entries (tag : Str) (htag : tag.length = 3) (entries : List (Int × Int))
    (hn : (intRepr (entries.length : Int)).length ≤ 3)
    (hfit : ∀ e ∈ entries, (intRepr e.1).length ≤ 3 ∧ (intRepr e.2).length ≤ 3)
    (atoms : List (Int × Atom)) (hex : ∀ e ∈ entries, (alookup (e.1 - 1) atoms).isSome) :
    parseAtomValueAssignments (propLine tag entries) atoms = .ok (entries.map fun e => (e.1 - 1, e.2)) :=
  parseAtomValueAssignments_propLine tag htag entries hn hfit atoms hex

/-- **The property block.**  `M  CHG` / `M  RAD` lines, when present, supersede ALL atom-block charge
codes; isotopes come from `M  ISO` lines over any number of lines; an atom-block mass (a D or T symbol)
is kept unless an `M  ISO` entry names that very atom; unrelated lines are ignored; a value of 0 means
"no value"; everything after `M  END` is ignored. -/
theorem C08_property_block (atoms : List (Int × Atom)) (bl : List BlockLine) (lines : List Str) (tail : List Str)
    (hlines : RendersAll atoms bl lines) :
    parseAttributeBlock (lines ++ cs "M  END" :: tail) atoms = .ok (atoms.map fun (k, a) =>
      let asg := allAssignments bl
      let base := if hasChgOrRad bl then { a with chg := none, rad := none } else a
      (k, { base with
        chg := nonZero (lastAssigned asg .chg k) <|> base.chg,
        rad := nonZero (lastAssigned asg .rad k) <|> base.rad,
        mass := nonZero (lastAssigned asg .mass k) <|> base.mass })) :=
  parseAttributeBlock_spec atoms bl lines tail hlines

/-- **A property block written in the fixed columns of the specification is read as what it states.**
`RendersAll` — the hypothesis of `C08_property_block`, `C08_connection_table` and, through `IsV2000File`, of
`C08_readers_agree` — relates text and meaning through the reader's own line parser.  Here the text is produced:
`M  CHG` / `M  RAD` / `M  ISO` lines laid out by `propLine` (count in columns 7–9, then `aaa vvv` pairs of
1-based atom number and value, each right-aligned in three columns after a blank) and unrelated lines.  Every
block written this way satisfies `RendersAll` for the 0-based assignments it states. -/
theorem C08_block_written_in_columns (atoms : List (Int × Atom)) (ps : List PropText)
    (hfit : ∀ p ∈ ps, p.Fits atoms) :
    RendersAll atoms (ps.map PropText.blockLine) (ps.map PropText.line) :=
  rendersAll_of_propTexts atoms ps hfit

/-- … so for such a block the reader returns the closed form of `C08_property_block` -/
theorem C08_property_block_written (atoms : List (Int × Atom)) (ps : List PropText) (tail : List Str)
    (hfit : ∀ p ∈ ps, p.Fits atoms) :
    parseAttributeBlock (ps.map PropText.line ++ cs "M  END" :: tail) atoms = .ok (atoms.map fun (k, a) =>
      let asg := allAssignments (ps.map PropText.blockLine)
      let base := if hasChgOrRad (ps.map PropText.blockLine) then { a with chg := none, rad := none } else a
      (k, { base with
        chg := nonZero (lastAssigned asg .chg k) <|> base.chg,
        rad := nonZero (lastAssigned asg .rad k) <|> base.rad,
        mass := nonZero (lastAssigned asg .mass k) <|> base.mass })) :=
  parseAttributeBlock_spec atoms _ _ tail (rendersAll_of_propTexts atoms ps hfit)

/-- non-vacuity: `M  CHG  1   2  -1`, an unrelated line and `M  ISO  2   1  13   2   2` fit a two-atom table -/
example : ∀ p ∈ [PropText.chg [(2, -1)], PropText.other (cs "M  STY  1   1 SUP"), PropText.iso [(1, 13), (2, 2)]],
    p.Fits [((0 : Int), ({} : Atom)), ((1 : Int), ({} : Atom))] := propTexts_example

/-- **The whole V2000 connection table.**  Three header lines, the counts line, fixed-column atom lines with
an atom-block charge code, fixed-column bond lines, atom-list lines, a property block (any mixture of
`M  CHG` / `M  RAD` / `M  ISO` and unrelated lines), `M  END`, and anything after it: the reader returns the
atoms in file order with the stated element (D/T = hydrogen-2/3), coordinates, and charge / radical / mass as
the charge code and the property block determine them, and one bond per bond line with its type. -/
theorem C08_connection_table (h0 h1 h2 countsTail : Str) (atoms : List V2Atom) (bonds : List V2Bond)
    (lists : List Str) (bl : List BlockLine) (blockLines : List Str) (tail : List Str)
    (hatoms : ∀ a ∈ atoms, a.Ok)
    (hna : (intRepr (atoms.length : Int)).length ≤ 3) (hnb : (intRepr (bonds.length : Int)).length ≤ 3)
    (hnl : (intRepr (lists.length : Int)).length ≤ 3)
    (hbonds : ∀ b ∈ bonds, (intRepr b.a).length ≤ 3 ∧ (intRepr b.b).length ≤ 3 ∧ (intRepr b.t).length ≤ 3 ∧
      1 ≤ b.a ∧ b.a ≤ atoms.length ∧ 1 ≤ b.b ∧ b.b ≤ atoms.length)
    (hskipB : ∀ b ∈ bonds, SkippedLine b.line) (hskipL : ∀ l ∈ lists, SkippedLine l)
    (hblock : RendersAll (atoms.zipIdx.map fun (a, i) => ((i : Int), a.record)) bl blockLines) :
    graphAttributesV2000
        (h0 :: h1 :: h2 :: (pad3 atoms.length ++ pad3 bonds.length ++ pad3 lists.length ++ countsTail) ::
          (atoms.map V2Atom.line ++ bonds.map V2Bond.line ++ lists ++ blockLines ++ cs "M  END" :: tail)) =
      .ok (applyBlock bl (atoms.zipIdx.map fun (a, i) => ((i : Int), a.record)),
           bonds.foldl (fun d b => ainsert (b.a - 1, b.b - 1) ({ btype := some b.t } : Bond) d) []) :=
  graphAttributesV2000_spec h0 h1 h2 countsTail atoms bonds lists bl blockLines tail hatoms hna hnb hnl hbonds
    hskipB hskipL hblock

/-- **The two readers agree, in the general form: the V2000 property lines may name an atom more than once.**
`m`, the V3000 table and the V2000 table are as described at `C08_readers_agree` below, except that `V2StatesRep`
replaces "every atom with a value is listed exactly once" by what the format leaves open: an atom may be named by
any number of `M  CHG` / `M  RAD` / `M  ISO` entries, on any lines; the LAST entry naming it carries the molecule's
value, a last entry of value 0 (or no entry at all) means the atom has none — for a `D` / `T` atom the symbol's
mass then stays.  `C08_readers_agree` is the special case without repetition (`C08_once_is_a_special_case`) and
is proved as such. -/
theorem C08_readers_agree_repeated_entries (m : Mol) (hm : m.Ok) (coords : List (Str × Str × Str))
    (lines3 : List Str) (atoms3 : List AtomEntry) (bonds3 : List BondEntry)
    (f3 : IsV3000File lines3 atoms3 bonds3) (s3 : V3States m coords atoms3 bonds3)
    (lines2 : List Str) (atoms2 : List V2Atom) (bonds2 : List V2Bond) (bl : List BlockLine)
    (f2 : IsV2000File lines2 atoms2 bonds2 bl) (s2 : V2StatesRep m atoms2 bonds2 bl) :
    graphAttributesV3000 lines3 = .ok (m.atomDict coords, m.bondDict) ∧
    graphAttributesV2000 lines2 = .ok (m.atomDict (v2Coords atoms2), m.bondDict) :=
  ⟨v3000_reads_mol hm f3 s3, v2000_reads_mol_rep hm f2 s2⟩

/-- … and hence the same TUCAN string (text level, any line-ending style, every oracle meeting the contract) -/
theorem C08_same_string_repeated_entries (O : CanonOracle) (m : Mol) (hm : m.Ok) (coords : List (Str × Str × Str))
    (text3 : Str) (lines3 : List Str) (atoms3 : List AtomEntry) (bonds3 : List BondEntry)
    (t3 : IsTextOf text3 lines3) (f3 : IsV3000File lines3 atoms3 bonds3)
    (v3 : ∀ l3, lines3[3]? = some l3 → EndsInWord l3 (cs "V3000")) (s3 : V3States m coords atoms3 bonds3)
    (text2 : Str) (lines2 : List Str) (atoms2 : List V2Atom) (bonds2 : List V2Bond) (bl : List BlockLine)
    (t2 : IsTextOf text2 lines2) (f2 : IsV2000File lines2 atoms2 bonds2 bl)
    (v2 : ∀ l3, lines2[3]? = some l3 → EndsInWord l3 (cs "V2000")) (s2 : V2StatesRep m atoms2 bonds2 bl)
    (g3 g2 : Graph) (str3 str2 : Str)
    (hg3 : graphFromMolfileText text3 = .ok g3) (hg2 : graphFromMolfileText text2 = .ok g2)
    (hs3 : tucanOf O.order g3 = .ok str3) (hs2 : tucanOf O.order g2 = .ok str2) : str3 = str2 :=
  readsAs_same_string O hm hm (sameIdentity_refl m) s3.nAtoms.2 s2.coords_length
    (v3000_text_reads_mol hm t3 f3 v3 s3) (v2000_text_reads_mol_rep hm t2 f2 v2 s2) hg3 hg2 hs3 hs2

/-- **C08 itself: the two readers agree.**  Let `m` be any molecule (atoms with written symbol — an element
symbol, `D` or `T` — charge, radical, isotope mass; bonds with a type).  A V3000 connection table that states
`m` (in any spelling `C07_connection_table_every_spelling` covers: consecutive indices, properties in any
order with the last `CHG=`/`RAD=`/`MASS=` being the molecule's) and a V2000 connection table that states `m`
— charges and radicals EITHER by the atom-block charge codes OR by `M  CHG` / `M  RAD` lines that list every
atom with a value exactly once (any number of entries per line, any number of lines, any order, unrelated lines
in between; the atom-block codes are then arbitrary and superseded), isotopes by `M  ISO` lines in the same
manner, `D` / `T` by the symbol — are read as the same atom dictionary, up to the spelling of the coordinates,
and the same bond dictionary. -/
theorem C08_readers_agree (m : Mol) (hm : m.Ok) (coords : List (Str × Str × Str))
    (lines3 : List Str) (atoms3 : List AtomEntry) (bonds3 : List BondEntry)
    (f3 : IsV3000File lines3 atoms3 bonds3) (s3 : V3States m coords atoms3 bonds3)
    (lines2 : List Str) (atoms2 : List V2Atom) (bonds2 : List V2Bond) (bl : List BlockLine)
    (f2 : IsV2000File lines2 atoms2 bonds2 bl) (s2 : V2States m atoms2 bonds2 bl) :
    graphAttributesV3000 lines3 = .ok (m.atomDict coords, m.bondDict) ∧
    graphAttributesV2000 lines2 = .ok (m.atomDict (v2Coords atoms2), m.bondDict) :=
  C08_readers_agree_repeated_entries m hm coords lines3 atoms3 bonds3 f3 s3 lines2 atoms2 bonds2 bl f2 s2.toRep

/-- **… and hence the same TUCAN string** (text level: any header lines, any of the three line-ending
styles in either file; for every oracle meeting the bliss contract). -/
theorem C08_same_string (O : CanonOracle) (m : Mol) (hm : m.Ok) (coords : List (Str × Str × Str))
    (text3 : Str) (lines3 : List Str) (atoms3 : List AtomEntry) (bonds3 : List BondEntry)
    (t3 : IsTextOf text3 lines3) (f3 : IsV3000File lines3 atoms3 bonds3)
    (v3 : ∀ l3, lines3[3]? = some l3 → EndsInWord l3 (cs "V3000")) (s3 : V3States m coords atoms3 bonds3)
    (text2 : Str) (lines2 : List Str) (atoms2 : List V2Atom) (bonds2 : List V2Bond) (bl : List BlockLine)
    (t2 : IsTextOf text2 lines2) (f2 : IsV2000File lines2 atoms2 bonds2 bl)
    (v2 : ∀ l3, lines2[3]? = some l3 → EndsInWord l3 (cs "V2000")) (s2 : V2States m atoms2 bonds2 bl)
    (g3 g2 : Graph) (str3 str2 : Str)
    (hg3 : graphFromMolfileText text3 = .ok g3) (hg2 : graphFromMolfileText text2 = .ok g2)
    (hs3 : tucanOf O.order g3 = .ok str3) (hs2 : tucanOf O.order g2 = .ok str2) : str3 = str2 :=
  C08_same_string_repeated_entries O m hm coords text3 lines3 atoms3 bonds3 t3 f3 v3 s3 text2 lines2 atoms2 bonds2 bl
    t2 f2 v2 s2.toRep g3 g2 str3 str2 hg3 hg2 hs3 hs2

/-- listing every atom with a value exactly once (`V2States`) is a special case of `V2StatesRep` -/
theorem C08_once_is_a_special_case (m : Mol) (atoms : List V2Atom) (bonds : List V2Bond) (bl : List BlockLine)
    (h : V2States m atoms bonds bl) : V2StatesRep m atoms bonds bl :=
  h.toRep

/-- non-vacuity with a genuine repetition: `[13C]`, its mass first stated as 12 and then as 13, a charge 2 given
and then revoked by an entry 0; the `M  CHG` lines supersede the decoy charge code 3 of the atom line -/
example : V2StatesRep repExampleMol repExampleAtoms [] repExampleBlock := repExample

/-- **A value of 0 means "no value"** — what `nonZero` in `C08_property_block` is: an entry `0` in an `M  CHG` /
`M  RAD` / `M  ISO` line states nothing, every other value is kept -/
theorem C08_zero_means_no_value :
    nonZero (some 0) = none ∧ nonZero none = none ∧ ∀ v : Int, v ≠ 0 → nonZero (some v) = some v :=
  ⟨rfl, rfl, fun v hv => (Agree.nonZero_some v).trans (if_neg hv)⟩

/-- the charge codes of the atom block, as the CTfile specification defines them (regenerated table) -/
theorem C08_charge_codes : chargeCode 0 = (none, none) ∧ chargeCode 1 = (some 3, none) ∧ chargeCode 2 = (some 2, none) ∧
    chargeCode 3 = (some 1, none) ∧ chargeCode 4 = (none, some 2) ∧ chargeCode 5 = (some (-1), none) ∧
    chargeCode 6 = (some (-2), none) ∧ chargeCode 7 = (some (-3), none) ∧
    (∀ c : Int, c < 0 ∨ 7 < c → chargeCode c = (none, none)) :=
  ⟨by decide, by decide, by decide, by decide, by decide, by decide, by decide, by decide,
    fun _ => chargeCode_out_of_range⟩

/-- D and T keep denoting hydrogen-2 and hydrogen-3 (the same table the V3000 reader uses) -/
theorem C08_hydrogen_isotopes :
    detectHydrogenIsotopes ['D'] = (['H'], 2) ∧ detectHydrogenIsotopes ['T'] = (['H'], 3) := ⟨rfl, rfl⟩

/-- non-vacuity of `C08_readers_agree` / `C08_same_string`: the molecule `[13C]-O(-)-D`, its V3000 file (one atom
line with blank runs, split inside a token) and its V2000 file (decoy charge code superseded by `M  CHG`,
`M  ISO`, an unrelated line, a line after `M  END`) meet every hypothesis; both readers return the molecule's
dictionaries, and both texts (CRLF after every line / LF without a final one) are read. -/
example : FilesExample.mol.Ok ∧ IsV3000File FilesExample.lines3 FilesExample.atoms3 FilesExample.bonds3 ∧
    V3States FilesExample.mol FilesExample.coords3 FilesExample.atoms3 FilesExample.bonds3 ∧
    IsV2000File FilesExample.lines2 FilesExample.atoms2 FilesExample.bonds2 FilesExample.block ∧
    V2States FilesExample.mol FilesExample.atoms2 FilesExample.bonds2 FilesExample.block ∧
    IsTextOf (fileText ['\r', '\n'] FilesExample.lines3) FilesExample.lines3 ∧
    IsTextOf (fileTextNoTrail ['\n'] FilesExample.lines2) FilesExample.lines2 :=
  ⟨FilesExample.mol_ok, FilesExample.isV3000File, FilesExample.v3States, FilesExample.isV2000File,
   FilesExample.v2States, FilesExample.isTextOf3, FilesExample.isTextOf2⟩

/-- non-vacuity: `propLine` lays an `M  ISO` line with one entry (atom 2, mass 13) out in the specification's columns -/
example : (propLine (cs "ISO") [(2, 13)]) = cs "M  ISO  1   2  13" := by decide +kernel

end Tucan
