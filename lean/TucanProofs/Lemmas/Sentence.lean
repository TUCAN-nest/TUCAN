import TucanProofs.Lemmas.Tables
/-!
# The declarative grammar and the recogniser

`Sentence ts ast` is the published grammar (`tucan.ebnf` / `tucan.g4`) as an inductive relation on token lists,
transcribed rule by rule, where the model's reader `parseTucan` is a recursive-descent function.  What the two
share: the token classes `isGtZero`, `isGtOne`, `isKey` (the grammar's "no leading zero", "> 1", "> 0" and key rules
are these Boolean tests in both) and the two element-order tables `withCarbonOrder`, `withoutCarbonOrder`,
regenerated from the parser's ATN and compared with `tucan.g4` by `C10_grammar_tables`.
-/
namespace Tucan

def tk (s : String) : Tok := .lit s.toList

/-- `x? y? z? …` where every `x` is `'Sym' count?` and `count : greater_than_one` -/
inductive OptElems : List Str → List Tok → List (Str × Option Str) → Prop
  | done (order : List Str) : OptElems order [] []
  | skip {e es ts items} : OptElems es ts items → OptElems (e :: es) ts items
  | plain {e es ts items} : OptElems es ts items →
      OptElems (e :: es) (Tok.lit e :: ts) ((e, none) :: items)
  | counted {e es c ts items} : isGtOne c = true → OptElems es ts items →
      OptElems (e :: es) (Tok.lit e :: c :: ts) ((e, some c.text) :: items)

/-- `sum_formula : with_carbon | without_carbon`; `with_carbon : c h? ac? …` (c mandatory) -/
inductive SumFormula : List Tok → List (Str × Option Str) → Prop
  | withCarbon {c0 es ts items} : withCarbonOrder = c0 :: es → OptElems es ts items →
      SumFormula (Tok.lit c0 :: ts) ((c0, none) :: items)
  | withCarbonCounted {c0 es c ts items} : withCarbonOrder = c0 :: es → isGtOne c = true → OptElems es ts items →
      SumFormula (Tok.lit c0 :: c :: ts) ((c0, some c.text) :: items)
  | withoutCarbon {ts items} : OptElems withoutCarbonOrder ts items → SumFormula ts items

/-- `tuples : tuple*`, `tuple : '(' node_index '-' node_index ')'`, `node_index : greater_than_zero` -/
inductive Tuples : List Tok → List (Str × Str) → Prop
  | nil : Tuples [] []
  | cons {a b ts r} : isGtZero a = true → isGtZero b = true → Tuples ts r →
      Tuples (tk "(" :: a :: tk "-" :: b :: tk ")" :: ts) ((a.text, b.text) :: r)

/-- `node_property (',' node_property)*` with `node_property : ('mass' | 'rad') '=' greater_than_zero` -/
inductive Props : List Tok → List (Str × Str) → Prop
  | one {k v} : isKey k = true → isGtZero v = true → Props [k, tk "=", v] [(k.text, v.text)]
  | more {k v ts r} : isKey k = true → isGtZero v = true → Props ts r →
      Props (k :: tk "=" :: v :: tk "," :: ts) ((k.text, v.text) :: r)

/-- `node_attributes : node_attribute*`, `node_attribute : '(' node_index ':' … ')'` -/
inductive Attrs : List Tok → List (Str × List (Str × Str)) → Prop
  | nil : Attrs [] []
  | cons {i ps pr ts r} : isGtZero i = true → Props ps pr → Attrs ts r →
      Attrs (tk "(" :: i :: tk ":" :: (ps ++ tk ")" :: ts)) ((i.text, pr) :: r)

/-- `tucan : sum_formula '/' tuples ('/' node_attributes)? EOF` -/
inductive Sentence : List Tok → Ast → Prop
  | plain {f items tu tups} : SumFormula f items → Tuples tu tups →
      Sentence (f ++ tk "/" :: tu) ⟨items, tups, []⟩
  | withAttrs {f items tu tups ta ats} : SumFormula f items → Tuples tu tups → Attrs ta ats →
      Sentence (f ++ tk "/" :: (tu ++ tk "/" :: ta)) ⟨items, tups, ats⟩

namespace Sentence

-- (through `toList_lit`: by `rfl` the elaborator and the kernel each evaluate `"(".toList`, 40 k a time)
theorem tk_lparen : tk "(" = Tok.lit ['('] := congrArg Tok.lit (toList_lit rfl)
theorem tk_rparen : tk ")" = Tok.lit [')'] := congrArg Tok.lit (toList_lit rfl)
theorem tk_minus : tk "-" = Tok.lit ['-'] := congrArg Tok.lit (toList_lit rfl)
theorem tk_colon : tk ":" = Tok.lit [':'] := congrArg Tok.lit (toList_lit rfl)
theorem tk_comma : tk "," = Tok.lit [','] := congrArg Tok.lit (toList_lit rfl)
theorem tk_eq : tk "=" = Tok.lit ['='] := congrArg Tok.lit (toList_lit rfl)
theorem tk_slash : tk "/" = Tok.lit ['/'] := congrArg Tok.lit (toList_lit rfl)

/-- (`beq_self_eq_true` itself makes `simp` search the `ReflBEq (List Char)` instance at every use: three times the cost of
the step) -/
theorem str_beq_self (a : Str) : (a == a) = true := beq_self_eq_true a

theorem parseElems_nil (ts : List Tok) : parseElems [] ts = ([], ts) :=
  rfl

theorem parseElems_count (e : Str) (es : List Str) (c : Tok) (rest : List Tok) (h : isGtOne c = true) :
    parseElems (e :: es) (.lit e :: c :: rest)
      = ((e, some c.text) :: (parseElems es rest).1, (parseElems es rest).2) := by
  simp only [parseElems, h, str_beq_self, if_true]

theorem parseElems_nocount (e : Str) (es : List Str) (c : Tok) (rest : List Tok) (h : isGtOne c = false) :
    parseElems (e :: es) (.lit e :: c :: rest)
      = ((e, none) :: (parseElems es (c :: rest)).1, (parseElems es (c :: rest)).2) := by
  simp only [parseElems, h, str_beq_self, if_true]; rfl

/-- the rule `'Sym' count?` -/
theorem parseElems_self (e : Str) (es : List Str) (tl : List Tok) :
    parseElems (e :: es) (.lit e :: tl) = ((e, none) :: (parseElems es tl).1, (parseElems es tl).2) ∨
    ∃ c tl', tl = c :: tl' ∧ isGtOne c = true ∧
      parseElems (e :: es) (.lit e :: tl) = ((e, some c.text) :: (parseElems es tl').1, (parseElems es tl').2) := by
  match tl with
  | [] => exact .inl (by rw [parseElems.eq_3, if_pos (str_beq_self e)]; cases es <;> rfl)
  | c :: tl' =>
    cases hc : isGtOne c with
    | true => exact .inr ⟨c, tl', rfl, hc, parseElems_count e es c tl' hc⟩
    | false => exact .inl (parseElems_nocount e es c tl' hc)

theorem parseElems_skip (e : Str) (es : List Str) (ts : List Tok) (h : ∀ tl, ts ≠ Tok.lit e :: tl) :
    parseElems (e :: es) ts = parseElems es ts := by
  match ts with
  | .lit s :: tl =>
    have hne : (s == e) = false := beq_false_of_ne fun hs => h tl (by rw [hs])
    simp only [parseElems, hne]
    rfl
  | [] | .big _ :: _ => cases es <;> rfl

theorem parseFormula_of_head_ne (ts : List Tok) (h : ∀ tl, ts ≠ Tok.lit ['C'] :: tl) :
    parseFormula ts = some (parseElems withoutCarbonOrder ts) := by
  unfold parseFormula
  split
  · exact absurd rfl (h _)
  · rfl

theorem parseFormula_carbon (tl : List Tok) :
    parseFormula (Tok.lit ['C'] :: tl) = some (parseElems withCarbonOrder (Tok.lit ['C'] :: tl)) := by
  have h := withCarbonOrder_eq
  simp only [parseFormula]
  generalize withCarbonOrder = o at h ⊢
  subst h
  simp

theorem tuples_sound {ts : List Tok} {r : List (Str × Str)} {rest : List Tok}
    (h : parseTuples ts = some (r, rest)) : ∃ pre, ts = pre ++ rest ∧ Tuples pre r := by
  fun_induction parseTuples ts generalizing r rest with
  | case1 a b rest0 hab ih =>
    obtain ⟨⟨r', rest'⟩, h1, h2⟩ := Option.map_eq_some_iff.1 h
    cases h2
    obtain ⟨pre, rfl, ht⟩ := ih h1
    simp only [Bool.and_eq_true] at hab
    exact ⟨tk "(" :: a :: tk "-" :: b :: tk ")" :: pre, by rw [tk_lparen, tk_minus, tk_rparen]; rfl,
      Tuples.cons hab.1 hab.2 ht⟩
  | case2 | case3 => cases h
  | case4 ts h1 h2 => cases h; exact ⟨[], rfl, .nil⟩

/-- what `parseProps` reads is the tail `(',' key '=' value)* ')'` of a `Props` -/
theorem props_sound {ts : List Tok} {r : List (Str × Str)} {rest : List Tok} {k v : Tok}
    (h : parseProps ts = some (r, rest)) (hk : isKey k = true) (hv : isGtZero v = true) :
    ∃ pre, ts = pre ++ tk ")" :: rest ∧ Props (k :: tk "=" :: v :: pre) ((k.text, v.text) :: r) := by
  fun_induction parseProps ts generalizing r rest k v with
  | case1 rest0 => cases h; exact ⟨[], by rw [tk_rparen]; rfl, .one hk hv⟩
  | case2 k' v' rest0 hkv ih =>
    obtain ⟨⟨r', rest'⟩, h1, h2⟩ := Option.map_eq_some_iff.1 h
    cases h2
    simp only [Bool.and_eq_true] at hkv
    obtain ⟨pre, rfl, hp⟩ := ih h1 hkv.1 hkv.2
    exact ⟨tk "," :: k' :: tk "=" :: v' :: pre, by rw [tk_comma, tk_eq]; rfl, .more hk hv hp⟩
  | case3 | case4 => cases h

theorem attrs_sound {ts : List Tok} {r : List (Str × List (Str × Str))} {rest : List Tok}
    (h : parseAttrs ts = some (r, rest)) : ∃ pre, ts = pre ++ rest ∧ Attrs pre r := by
  fun_induction parseAttrs ts generalizing r rest with
  | case1 i k v rest0 hc ps rest' hpp hlen ih =>
    obtain ⟨⟨r', rest''⟩, h1, h2⟩ := Option.map_eq_some_iff.1 h
    cases h2
    simp only [Bool.and_eq_true] at hc
    obtain ⟨pre, rfl, ha⟩ := ih h1
    obtain ⟨pp, rfl, hp⟩ := props_sound hpp hc.1.2 hc.2
    exact ⟨tk "(" :: i :: tk ":" :: ((k :: tk "=" :: v :: pp) ++ tk ")" :: pre),
      by simp only [List.cons_append, List.append_assoc, tk_lparen, tk_colon, tk_eq, tk_rparen], .cons hc.1.1 hp ha⟩
  | case2 | case3 | case4 | case5 => cases h
  | case6 ts h1 h2 => cases h; exact ⟨[], rfl, .nil⟩

theorem elems_sound (order : List Str) (ts : List Tok) (items : List (Str × Option Str)) (rest : List Tok)
    (h : parseElems order ts = (items, rest)) : ∃ pre, ts = pre ++ rest ∧ OptElems order pre items := by
  induction order generalizing ts items with
  | nil => cases h; exact ⟨[], rfl, .done _⟩
  | cons e es ih =>
    by_cases he : ∃ tl, ts = Tok.lit e :: tl
    · obtain ⟨tl, rfl⟩ := he
      rcases parseElems_self e es tl with hs | ⟨c, tl', rfl, hc, hs⟩
      · rw [hs] at h
        cases h
        obtain ⟨pre, hpre, ho⟩ := ih tl _ rfl
        exact ⟨_ :: pre, by rw [List.cons_append, ← hpre], .plain ho⟩
      · rw [hs] at h
        cases h
        obtain ⟨pre, hpre, ho⟩ := ih tl' _ rfl
        exact ⟨_ :: c :: pre, by rw [List.cons_append, List.cons_append, ← hpre], .counted hc ho⟩
    · rw [parseElems_skip e es ts fun tl h => he ⟨tl, h⟩] at h
      obtain ⟨pre, hpre, ho⟩ := ih ts _ h
      exact ⟨pre, hpre, .skip ho⟩

theorem formula_sound {ts : List Tok} {items : List (Str × Option Str)} {rest : List Tok}
    (h : parseFormula ts = some (items, rest)) : ∃ pre, ts = pre ++ rest ∧ SumFormula pre items := by
  by_cases hC : ∃ tl, ts = Tok.lit ['C'] :: tl
  · -- `with_carbon`: the rule for `C` is not optional
    obtain ⟨tl, rfl⟩ := hC
    rw [parseFormula_carbon, withCarbonOrder_eq] at h
    rcases parseElems_self _ _ tl with hs | ⟨c, tl', rfl, hc, hs⟩
    · rw [hs] at h
      cases h
      obtain ⟨pre, hpre, ho⟩ := elems_sound _ tl _ _ rfl
      exact ⟨_ :: pre, by rw [List.cons_append, ← hpre], .withCarbon withCarbonOrder_eq ho⟩
    · rw [hs] at h
      cases h
      obtain ⟨pre, hpre, ho⟩ := elems_sound _ tl' _ _ rfl
      exact ⟨_ :: c :: pre, by rw [List.cons_append, List.cons_append, ← hpre],
        .withCarbonCounted withCarbonOrder_eq hc ho⟩
  · rw [parseFormula_of_head_ne _ fun tl htl => hC ⟨tl, htl⟩, Option.some.injEq] at h
    obtain ⟨pre, hpre, ho⟩ := elems_sound _ ts _ _ h
    exact ⟨pre, hpre, .withoutCarbon ho⟩

end Sentence

theorem parseTucan_sound (ts : List Tok) (ast : Ast) (h : parseTucan ts = some ast) : Sentence ts ast := by
  unfold parseTucan at h
  obtain ⟨⟨f, ts1⟩, hf, h1⟩ := Option.bind_eq_some_iff.1 h
  obtain ⟨pf, rfl, hF⟩ := Sentence.formula_sound hf
  dsimp only at h1
  split at h1
  · obtain ⟨⟨tu, ts3⟩, ht, h2⟩ := Option.bind_eq_some_iff.1 h1
    obtain ⟨pt, rfl, hT⟩ := Sentence.tuples_sound ht
    dsimp only at h2
    split at h2
    · cases h2
      rw [List.append_nil, ← Sentence.tk_slash]
      exact .plain hF hT
    · obtain ⟨⟨ats, ts5⟩, ha, h3⟩ := Option.bind_eq_some_iff.1 h2
      obtain ⟨pa, rfl, hA⟩ := Sentence.attrs_sound ha
      dsimp only at h3
      split at h3
      · next hemp =>
        obtain rfl : ts5 = [] := List.isEmpty_iff.1 hemp
        cases h3
        rw [List.append_nil, ← Sentence.tk_slash]
        exact .withAttrs hF hT hA
      · cases h3
    · cases h2
  · cases h1

namespace Sentence

theorem tuples_complete {pre : List Tok} {r : List (Str × Str)} (h : Tuples pre r) :
    ∀ rest : List Tok, (∀ tl, rest ≠ Tok.lit ['('] :: tl) →
      parseTuples (pre ++ rest) = some (r, rest) := by
  induction h with
  | nil =>
    intro rest hrest
    exact parseTuples.eq_3 rest (fun a b r' h => hrest _ h) (fun tl h => hrest _ h)
  | @cons a b ts r ha hb _ ih =>
    intro rest hrest
    rw [tk_lparen, tk_minus, tk_rparen]
    simp only [List.cons_append]
    rw [parseTuples.eq_1, if_pos (by simp [ha, hb]), ih rest hrest]
    rfl

theorem props_complete {ps : List Tok} {pr : List (Str × Str)} (h : Props ps pr) :
    ∀ rest : List Tok, ∃ k v tail pr', ps = k :: tk "=" :: v :: tail ∧ pr = (k.text, v.text) :: pr' ∧
      isKey k = true ∧ isGtZero v = true ∧ parseProps (tail ++ tk ")" :: rest) = some (pr', rest) := by
  induction h with
  | @one k v hk hv =>
    intro rest
    exact ⟨k, v, [], [], rfl, rfl, hk, hv, parseProps.eq_1 rest⟩
  | @more k v ts r hk hv _ ih =>
    intro rest
    obtain ⟨k', v', tail', pr'', hts, hr, hk', hv', hp⟩ := ih rest
    refine ⟨k, v, tk "," :: ts, r, rfl, rfl, hk, hv, ?_⟩
    subst hts hr
    rw [tk_comma, tk_eq]
    simp only [List.cons_append]
    rw [parseProps.eq_2, if_pos (by simp [hk', hv']), hp]
    rfl

theorem attrs_complete {pre : List Tok} {r : List (Str × List (Str × Str))} (h : Attrs pre r) :
    ∀ rest : List Tok, (∀ tl, rest ≠ Tok.lit ['('] :: tl) →
      parseAttrs (pre ++ rest) = some (r, rest) := by
  induction h with
  | nil =>
    intro rest hrest
    exact parseAttrs.eq_3 rest (fun i k v r' h => hrest _ h) (fun tl h => hrest _ h)
  | @cons i ps pr ts r hi hp _ ih =>
    intro rest hrest
    obtain ⟨k, v, tail, pr', hps, hpr, hk, hv, hpp⟩ := props_complete hp (ts ++ rest)
    subst hps hpr
    rw [tk_lparen, tk_colon, tk_eq]
    simp only [List.cons_append, List.append_assoc]
    rw [parseAttrs.eq_1, if_pos (by simp [hi, hk, hv])]
    simp only [hpp]
    rw [if_pos (by simp; omega), ih rest hrest]
    rfl

theorem parseElems_stop (order : List Str) (t : Tok) (rest : List Tok)
    (h : ∀ e ∈ order, t ≠ Tok.lit e) : parseElems order (t :: rest) = ([], t :: rest) := by
  induction order with
  | nil => exact parseElems_nil _
  | cons e es ih =>
    rw [parseElems_skip _ _ _ fun tl htl => h e List.mem_cons_self (List.head_eq_of_cons_eq htl)]
    exact ih (fun e' he' => h e' (List.mem_cons_of_mem _ he'))

theorem optElems_head {order : List Str} {pre : List Tok} {items : List (Str × Option Str)}
    (h : OptElems order pre items) : pre = [] ∨ ∃ e ∈ order, ∃ tl, pre = Tok.lit e :: tl := by
  induction h with
  | done order => exact Or.inl rfl
  | @skip e es ts items _ ih =>
    rcases ih with ih | ⟨e', he', tl, htl⟩
    · exact Or.inl ih
    · exact Or.inr ⟨e', List.mem_cons_of_mem _ he', tl, htl⟩
  | @plain e es ts items _ _ => exact Or.inr ⟨e, List.mem_cons_self, _, rfl⟩
  | @counted e es c ts items _ _ _ => exact Or.inr ⟨e, List.mem_cons_self, _, rfl⟩

theorem optElems_next {order : List Str} {pre : List Tok} {items : List (Str × Option Str)}
    (h : OptElems order pre items) (t : Tok) (rest : List Tok) :
    ∃ x tl, pre ++ t :: rest = x :: tl ∧ (x = t ∨ ∃ e ∈ order, x = Tok.lit e) := by
  rcases optElems_head h with rfl | ⟨e, he, tl, rfl⟩
  · exact ⟨t, rest, rfl, Or.inl rfl⟩
  · exact ⟨Tok.lit e, tl ++ t :: rest, rfl, Or.inr ⟨e, he, rfl⟩⟩

theorem elems_complete {order : List Str} {pre : List Tok} {items : List (Str × Option Str)}
    (h : OptElems order pre items) {t : Tok} (rest : List Tok) (hg : isGtOne t = false) :
    order.Nodup → (∀ e ∈ order, digit1to9 e = false ∧ t ≠ Tok.lit e) →
      parseElems order (pre ++ t :: rest) = (items, t :: rest) := by
  induction h with
  | done order => exact fun _ ho => parseElems_stop order t rest fun e he => (ho e he).2
  | @skip e es ts items h' ih =>
    -- the reader takes `e` whenever it sees it: what follows a skipped `e?` is a later symbol of the order or `t`
    intro hnd ho
    have key := ih (List.nodup_cons.1 hnd).2 fun x hx => ho x (List.mem_cons_of_mem _ hx)
    obtain ⟨x, tl, hx, hx'⟩ := optElems_next h' t rest
    rw [hx] at key ⊢
    rw [parseElems_skip _ _ _ ?_, key]
    intro tl' htl
    cases htl
    rcases hx' with rfl | ⟨e', he', heq⟩
    · exact (ho e List.mem_cons_self).2 rfl
    · exact (List.nodup_cons.1 hnd).1 (Tok.lit.inj heq ▸ he')
  | @plain e es ts items h' ih =>
    intro hnd ho
    have key := ih (List.nodup_cons.1 hnd).2 fun x hx => ho x (List.mem_cons_of_mem _ hx)
    obtain ⟨x, tl, hx, hx'⟩ := optElems_next h' t rest
    have hxg : isGtOne x = false := by
      rcases hx' with rfl | ⟨e', he', rfl⟩
      · exact hg
      · simp [isGtOne, (ho e' (List.mem_cons_of_mem _ he')).1]
    rw [hx] at key
    rw [List.cons_append, hx, parseElems_nocount _ _ _ _ hxg, key]
  | @counted e es c ts items hc h' ih =>
    intro hnd ho
    rw [List.cons_append, List.cons_append, parseElems_count _ _ _ _ hc,
      ih (List.nodup_cons.1 hnd).2 fun x hx => ho x (List.mem_cons_of_mem _ hx)]

theorem sumFormula_optElems {ts : List Tok} {items : List (Str × Option Str)} (h : SumFormula ts items) :
    (OptElems withCarbonOrder ts items ∧ ∃ tl, ts = Tok.lit ['C'] :: tl) ∨ OptElems withoutCarbonOrder ts items := by
  have hC : ∀ {c0 es}, withCarbonOrder = c0 :: es → c0 = ['C'] := fun hw => by
    have := withCarbonOrder_eq
    rw [hw] at this
    injection this
  cases h with
  | withCarbon hw ho => cases hC hw; exact .inl ⟨hw ▸ .plain ho, _, rfl⟩
  | withCarbonCounted hw hc ho => cases hC hw; exact .inl ⟨hw ▸ .counted hc ho, _, rfl⟩
  | withoutCarbon ho => exact .inr ho

/-- either formula rule is a chain of optional element symbols -/
theorem sumFormula_symbols {ts : List Tok} {items : List (Str × Option Str)} (h : SumFormula ts items) :
    ∃ order, (∀ e ∈ order, e ∈ elementSyms) ∧ OptElems order ts items := by
  rcases sumFormula_optElems h with ⟨ho, -⟩ | ho
  · exact ⟨_, fun e he => mem_elementSyms_of_mem_order (List.mem_append_left _ he), ho⟩
  · exact ⟨_, fun e he => mem_elementSyms_of_mem_order (List.mem_append_right _ he), ho⟩

theorem formula_complete {pre : List Tok} {items : List (Str × Option Str)} (h : SumFormula pre items)
    (rest : List Tok) : parseFormula (pre ++ tk "/" :: rest) = some (items, tk "/" :: rest) := by
  -- `'/'` ends both formula rules
  have hstop : ∀ e ∈ withCarbonOrder ++ withoutCarbonOrder, digit1to9 e = false ∧ tk "/" ≠ Tok.lit e := fun e he =>
    have ⟨h1, h2, _⟩ := symbolShape_tok (List.all_eq_true.1 elementSymbols_shape e (mem_elementSyms_of_mem_order he))
    ⟨h1, fun heq => h2 (Tok.lit.inj heq).symm⟩
  rcases sumFormula_optElems h with ⟨ho, tl, rfl⟩ | ho
  · rw [List.cons_append, parseFormula_carbon, ← List.cons_append,
      elems_complete ho rest (by decide) withCarbonOrder_nodup fun e he => hstop e (List.mem_append_left _ he)]
  · have hne : ∀ tl, pre ++ tk "/" :: rest ≠ Tok.lit ['C'] :: tl := by
      intro tl htl
      obtain ⟨x, tl', hx, hx'⟩ := optElems_next ho (tk "/") rest
      rw [hx] at htl
      injection htl with hxC _
      rcases hx' with rfl | ⟨e, he, rfl⟩
      · exact absurd hxC (by decide)
      · exact ((mem_withoutCarbonOrder e).mp he).2 (Tok.lit.inj hxC)
    rw [parseFormula_of_head_ne _ hne,
      elems_complete ho rest (by decide) withoutCarbonOrder_nodup fun e he => hstop e (List.mem_append_right _ he)]

end Sentence

theorem parseTucan_complete (ts : List Tok) (ast : Ast) (h : Sentence ts ast) : parseTucan ts = some ast := by
  cases h with
  | @plain f items tu tups hF hT =>
    have h2 := Sentence.tuples_complete hT [] nofun
    rw [List.append_nil] at h2
    unfold parseTucan
    rw [Sentence.formula_complete hF tu]
    show Option.bind (parseTuples tu) _ = _
    rw [h2]
    rfl
  | @withAttrs f items tu tups ta ats hF hT hA =>
    have h2 := Sentence.tuples_complete hT (tk "/" :: ta) fun tl h => absurd (List.head_eq_of_cons_eq h) (by decide)
    have h3 := Sentence.attrs_complete hA [] nofun
    rw [List.append_nil] at h3
    unfold parseTucan
    rw [Sentence.formula_complete hF (tu ++ tk "/" :: ta)]
    show Option.bind (parseTuples (tu ++ tk "/" :: ta)) _ = _
    rw [h2]
    show Option.bind (parseAttrs ta) _ = _
    rw [h3]
    rfl

/-- **The recogniser accepts exactly the grammar.** -/
theorem parseTucan_iff (ts : List Tok) (ast : Ast) : parseTucan ts = some ast ↔ Sentence ts ast :=
  ⟨parseTucan_sound ts ast, parseTucan_complete ts ast⟩

/-- the grammar is unambiguous: the tree is what the recogniser returns -/
theorem Sentence.unique {ts : List Tok} {a b : Ast} (h : Sentence ts a) (h' : Sentence ts b) : a = b :=
  Option.some.inj (((parseTucan_iff ts a).2 h).symm.trans ((parseTucan_iff ts b).2 h'))

end Tucan
