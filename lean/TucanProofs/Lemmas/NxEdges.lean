import TucanProofs.Lemmas.GraphBasics
import TucanProofs.Lemmas.Basics.Order
/-!
# networkx container lemmas I: `G.edges`, the sorted edge list, `add_edges_from`, rebuilding a graph

`G.edges` reports every adjacent pair once, from the endpoint listed first, so the sorted edge list the
serializer writes depends on adjacency alone.  `add_edges_from` is read through the lookup `edgeData?`
(`addEdge_spec`, `foldl_addEdge`) and summed up in the invariant `Inv`.  `rebuild_spec` — create the nodes, then
`add_edges_from` any list covering the adjacency entries — is what `copy`, `relabel_nodes` and
`_sort_molecule_by_label` all do.
-/
namespace Tucan
open Graph

namespace NxE

theorem edgesGo_cons (n : Node) (r : List Node) (seen : List Nat) :
    edgesGo (n :: r) seen =
      ((n.nbrs.filter fun e => !seen.contains e.1).map fun e => (n.id, e.1, e.2))
        ++ edgesGo r (n.id :: seen) := by
  rw [edgesGo, ← List.filterMap_eq_map, List.filterMap_filter]
  congr 2
  funext ⟨v, d⟩
  dsimp only
  cases seen.contains v <;> rfl

theorem mem_edgesGo {ns : List Node} {seen : List Nat} {t : Nat × Nat × Bond} (h : t ∈ edgesGo ns seen) :
    (∃ n ∈ ns, n.id = t.1 ∧ t.2 ∈ n.nbrs) ∧ t.2.1 ∉ seen := by
  induction ns generalizing seen with
  | nil => cases h
  | cons m r ih =>
    rw [edgesGo_cons, List.mem_append, List.mem_map] at h
    rcases h with ⟨e, he, rfl⟩ | h
    · rw [List.mem_filter] at he
      exact ⟨⟨m, List.mem_cons_self, rfl, he.1⟩, by simpa using he.2⟩
    · obtain ⟨⟨n, hn, h⟩, hs⟩ := ih h
      exact ⟨⟨n, List.mem_cons_of_mem _ hn, h⟩, fun hc => hs (List.mem_cons_of_mem _ hc)⟩

/-- of two nodes that list each other, the one that comes first reports the edge -/
theorem edgesGo_complete {ns : List Node} (hnd : (ns.map (·.id)).Nodup) {seen : List Nat} {n m : Node}
    {d : Bond} (hn : n ∈ ns) (hm : m ∈ ns) (hnm : (m.id, d) ∈ n.nbrs) (hmn : (n.id, d) ∈ m.nbrs)
    (hsn : n.id ∉ seen) (hsm : m.id ∉ seen) :
    (n.id, m.id, d) ∈ edgesGo ns seen ∨ (m.id, n.id, d) ∈ edgesGo ns seen := by
  induction ns generalizing seen with
  | nil => cases hn
  | cons k r ih =>
    rw [List.map_cons, List.nodup_cons] at hnd
    have here : ∀ {x y : Node}, (y.id, d) ∈ x.nbrs → y.id ∉ seen →
        (x.id, y.id, d) ∈ edgesGo (x :: r) seen := fun {x y} hxy hy => by
      rw [edgesGo_cons]
      exact List.mem_append_left _ (List.mem_map.2 ⟨(y.id, d), List.mem_filter.2 ⟨hxy, by simpa using hy⟩, rfl⟩)
    have later : ∀ {x : Node}, x ∈ r → x.id ∉ seen → x.id ∉ k.id :: seen := fun {x} hx hs hc =>
      (List.mem_cons.1 hc).elim (fun e => hnd.1 (e ▸ List.mem_map_of_mem hx)) hs
    rcases List.mem_cons.1 hn with rfl | hn
    · exact Or.inl (here hnm hsm)
    · rcases List.mem_cons.1 hm with rfl | hm
      · exact Or.inr (here hmn hsn)
      · rw [edgesGo_cons]
        exact (ih hnd.2 hn hm (later hn hsn) (later hm hsm)).imp (List.mem_append_right _)
          (List.mem_append_right _)

end NxE

theorem Graph.mem_edges {g : Graph} (hw : g.WF) {u v : Nat} {d : Bond} (h : (u, v, d) ∈ g.edges) :
    (v, d) ∈ g.nbrsD u := by
  obtain ⟨⟨n, hn, rfl, he⟩, -⟩ := NxE.mem_edgesGo h
  rw [NxE.nbrsD_of_mem hw.nodup hn]; exact he

/-- every adjacent pair is reported exactly once, from one of its two endpoints -/
theorem Graph.edges_complete {g : Graph} (hw : g.WF) {u v : Nat} {d : Bond} (h : (v, d) ∈ g.nbrsD u) :
    (u, v, d) ∈ g.edges ∨ (v, u, d) ∈ g.edges := by
  obtain ⟨n, hn, rfl, he⟩ := NxE.mem_nbrsD h
  obtain ⟨m, hm, rfl, he'⟩ := NxE.mem_nbrsD (hw.symmD h)
  exact NxE.edgesGo_complete hw.nodup hn hm he he' List.not_mem_nil List.not_mem_nil

namespace NxE

theorem mem_nbrsD_iff_edges {g : Graph} (hw : g.WF) (a w : Nat) (d : Bond) :
    (w, d) ∈ g.nbrsD a ↔ ((a, w, d) ∈ g.edges ∨ (w, a, d) ∈ g.edges) :=
  ⟨Graph.edges_complete hw, fun h => h.elim (Graph.mem_edges hw) fun h => hw.symmD (Graph.mem_edges hw h)⟩

/-- the unordered pair of an edge, as the serializer normalises it -/
def norm : Nat × Nat × Bond → Nat × Nat := fun (u, v, _) => if u ≤ v then (u, v) else (v, u)

theorem sortedEdges_eq (g : Graph) : sortedEdges g = (g.edges.map norm).mergeSort leNN := rfl

theorem norm_eq (u v : Nat) (d : Bond) : norm (u, v, d) = if u ≤ v then (u, v) else (v, u) := rfl

theorem norm_eq_norm_iff {u v u' v' : Nat} {d d' : Bond} :
    norm (u, v, d) = norm (u', v', d') ↔ ((u = u' ∧ v = v') ∨ (u = v' ∧ v = u')) :=
  orderedPair_eq_iff

theorem norm_eq_iff {u v a b : Nat} {d : Bond} :
    norm (u, v, d) = (a, b) ↔ a ≤ b ∧ ((u = a ∧ v = b) ∨ (u = b ∧ v = a)) := by
  -- for `a ≤ b` the pair `(a, b)` is `norm (a, b, d)`
  constructor
  · intro h
    have hab : a ≤ b := by
      rw [norm_eq] at h
      split at h <;> cases h <;> omega
    exact ⟨hab, (norm_eq_norm_iff (d' := d)).1 (h.trans (if_pos hab).symm)⟩
  · rintro ⟨hab, h⟩
    exact ((norm_eq_norm_iff (d' := d)).2 h).trans (if_pos hab)

theorem edgesGo_norm_pairwise {ns : List Node} (hnd : (ns.map (·.id)).Nodup)
    (hk : ∀ n ∈ ns, (n.nbrs.map (·.1)).Nodup) (seen : List Nat) :
    (edgesGo ns seen).Pairwise (fun x y => norm x ≠ norm y) := by
  induction ns generalizing seen with
  | nil => exact List.Pairwise.nil
  | cons m r ih =>
    rw [List.map_cons, List.nodup_cons] at hnd
    rw [edgesGo_cons, List.pairwise_append]
    refine ⟨?_, ih hnd.2 (fun n hn => hk n (List.mem_cons_of_mem _ hn)) _, ?_⟩
    · rw [List.pairwise_map]
      refine ((List.pairwise_map.1 (hk m List.mem_cons_self)).filter _).imp fun {e e'} hne => ?_
      rw [Ne, norm_eq_norm_iff]
      rintro (⟨-, h⟩ | ⟨h1, h2⟩)
      · exact hne h
      · exact hne (h2.trans h1)
    · rintro x hx ⟨u, v, d⟩ hy
      obtain ⟨e, -, rfl⟩ := List.mem_map.1 hx
      obtain ⟨⟨n, hn, rfl, -⟩, hseen⟩ := mem_edgesGo hy
      rw [Ne, norm_eq_norm_iff]
      rintro (⟨he, -⟩ | ⟨he, -⟩)
      · exact hnd.1 (he ▸ List.mem_map_of_mem hn)
      · exact hseen (he ▸ List.mem_cons_self)

theorem edges_norm_nodup {g : Graph} (hw : g.WF) : (g.edges.map norm).Nodup :=
  List.pairwise_map.2 (edgesGo_norm_pairwise hw.nodup hw.nbrNodup [])

end NxE

theorem sortedEdges_length (g : Graph) : (sortedEdges g).length = g.numberOfEdges := by
  rw [NxE.sortedEdges_eq, List.length_mergeSort, List.length_map]; rfl

theorem sortedEdges_mem (g : Graph) (hw : g.WF) (hs : g.Simple) (a b : Nat) :
    (a, b) ∈ sortedEdges g ↔ a < b ∧ g.Adj a b := by
  rw [NxE.sortedEdges_eq, List.mem_mergeSort, List.mem_map, NxE.adj_iff]
  constructor
  · rintro ⟨⟨u, v, d⟩, he, hn⟩
    have h1 := Graph.mem_edges hw he
    have hne := hs.neD h1
    rw [NxE.norm_eq_iff] at hn
    rcases hn with ⟨hle, ⟨rfl, rfl⟩ | ⟨rfl, rfl⟩⟩
    · exact ⟨Nat.lt_of_le_of_ne hle hne.symm, d, h1⟩
    · exact ⟨Nat.lt_of_le_of_ne hle hne, d, hw.symmD h1⟩
  · rintro ⟨hlt, d, h⟩
    rcases Graph.edges_complete hw h with he | he
    · exact ⟨_, he, NxE.norm_eq_iff.2 ⟨Nat.le_of_lt hlt, Or.inl ⟨rfl, rfl⟩⟩⟩
    · exact ⟨_, he, NxE.norm_eq_iff.2 ⟨Nat.le_of_lt hlt, Or.inr ⟨rfl, rfl⟩⟩⟩

theorem sortedEdges_nodup (g : Graph) (hw : g.WF) : (sortedEdges g).Nodup :=
  (List.mergeSort_perm _ _).nodup_iff.2 (NxE.edges_norm_nodup hw)

theorem sortedEdges_strict (g : Graph) (hw : g.WF) :
    (sortedEdges g).Pairwise (fun x y => x.1 < y.1 ∨ (x.1 = y.1 ∧ x.2 < y.2)) := by
  rw [NxE.sortedEdges_eq, leNN_eq_lePair]
  refine (lePair_totalLE.sorted_of_nodup (NxE.edges_norm_nodup hw)).imp ?_
  rintro ⟨a1, a2⟩ ⟨b1, b2⟩ ⟨hle, hne⟩
  rw [lePair_iff] at hle
  rw [ne_eq, Prod.mk.injEq] at hne
  exact hle.imp_right fun ⟨e, h⟩ => ⟨e, Nat.lt_of_le_of_ne h fun e2 => hne ⟨e, e2⟩⟩

/-- the sorted edge list is a function of the adjacency relation alone: listing order of atoms and
bonds, bond orientation and bond records do not matter -/
theorem sortedEdges_congr (g g' : Graph) (hw : g.WF) (hs : g.Simple) (hw' : g'.WF) (hs' : g'.Simple)
    (hadj : ∀ a b, g.Adj a b ↔ g'.Adj a b) : sortedEdges g = sortedEdges g' := by
  have hp : (sortedEdges g).Perm (sortedEdges g') :=
    (List.perm_ext_iff_of_nodup (sortedEdges_nodup g hw) (sortedEdges_nodup g' hw')).2 fun (a, b) => by
      rw [sortedEdges_mem g hw hs, sortedEdges_mem g' hw' hs', hadj]
  exact sortNN_perm_eq (((List.mergeSort_perm _ _).symm.trans hp).trans (List.mergeSort_perm _ _))

namespace NxE

def Joins (t : Nat × Nat × Bond) (x y : Nat) : Prop := (t.1 = x ∧ t.2.1 = y) ∨ (t.1 = y ∧ t.2.1 = x)

instance (t : Nat × Nat × Bond) (x y : Nat) : Decidable (Joins t x y) := by
  unfold Joins; infer_instance

theorem Joins.symm {t : Nat × Nat × Bond} {x y : Nat} (h : Joins t x y) : Joins t y x :=
  Or.symm h

theorem Joins.of_same {t t' : Nat × Nat × Bond} {x y : Nat} (h : Joins t x y) (h' : Joins t' x y) :
    Joins t' t.1 t.2.1 := by
  rcases h with ⟨rfl, rfl⟩ | ⟨rfl, rfl⟩
  · exact h'
  · exact h'.symm

theorem addEdge_spec (h : Graph) {a b : Nat} (d : Bond) (ha : a ∈ h.labels) (hb : b ∈ h.labels)
    (hk : ∀ x, ((h.nbrsD x).map (·.1)).Nodup) :
    (h.addEdge a b d).labels = h.labels ∧
    (∀ x, (h.addEdge a b d).attrs? x = h.attrs? x) ∧
    (∀ x, (((h.addEdge a b d).nbrsD x).map (·.1)).Nodup) ∧
    (∀ x y, (h.addEdge a b d).edgeData? x y =
      if Joins (a, b, d) x y then some (((h.edgeData? a b).getD {}).update d)
      else h.edgeData? x y) := by
  generalize hdd : ((h.edgeData? a b).getD {}).update d = dd
  have heq : h.addEdge a b d = (h.setNbr a b dd).setNbr b a dd := by
    simp only [Graph.addEdge, NxE.addNode_of_mem ha, NxE.addNode_of_mem hb, hdd]
  have hb' : b ∈ (h.setNbr a b dd).labels := by rw [NxE.labels_setNbr]; exact hb
  rw [heq]
  refine ⟨by rw [NxE.labels_setNbr, NxE.labels_setNbr], fun x => by rw [NxE.attrs?_setNbr, NxE.attrs?_setNbr],
    keys_setNbr _ _ _ _ (keys_setNbr _ _ _ _ hk), fun x y => ?_⟩
  rw [edgeData?_setNbr _ _ _ hb', edgeData?_setNbr _ _ _ ha]
  by_cases h1 : x = b ∧ y = a
  · rw [if_pos h1, if_pos (show Joins (a, b, d) x y from Or.inr ⟨h1.2.symm, h1.1.symm⟩)]
  · rw [if_neg h1]
    by_cases h2 : x = a ∧ y = b
    · rw [if_pos h2, if_pos (show Joins (a, b, d) x y from Or.inl ⟨h2.1.symm, h2.2.symm⟩)]
    · rw [if_neg h2, if_neg]
      rintro (h | h)
      · exact h2 ⟨h.1.symm, h.2.symm⟩
      · exact h1 ⟨h.2.symm, h.1.symm⟩

/-- The induction rests on `hst`: a stored record is blank or the one to come, so each `update` returns the new
record; `hco` keeps this true after each step. -/
theorem foldl_addEdge (es : List (Nat × Nat × Bond)) (h : Graph)
    (hes : ∀ t ∈ es, t.1 ∈ h.labels ∧ t.2.1 ∈ h.labels)
    (hk : ∀ x, ((h.nbrsD x).map (·.1)).Nodup)
    (hst : ∀ t ∈ es, ∀ e, h.edgeData? t.1 t.2.1 = some e → e = {} ∨ e = t.2.2)
    (hco : ∀ t ∈ es, ∀ t' ∈ es, Joins t t'.1 t'.2.1 → t.2.2 = t'.2.2)
    {h' : Graph} (hh : h' = es.foldl (fun h (u, v, d) => h.addEdge u v d) h) :
    h'.labels = h.labels ∧ (∀ x, h'.attrs? x = h.attrs? x) ∧
    (∀ x, ((h'.nbrsD x).map (·.1)).Nodup) ∧
    (∀ x y e, h'.edgeData? x y = some e ↔
      (∃ t ∈ es, Joins t x y ∧ t.2.2 = e) ∨
        ((∀ t ∈ es, ¬ Joins t x y) ∧ h.edgeData? x y = some e)) := by
  induction es generalizing h with
  | nil =>
    subst hh
    exact ⟨rfl, fun _ => rfl, hk, fun x y e => by simp⟩
  | cons t0 r ih =>
    obtain ⟨u, v, d⟩ := t0
    rw [List.foldl_cons] at hh
    obtain ⟨hu, hv⟩ := hes _ List.mem_cons_self
    obtain ⟨s1, s2, s3, s4⟩ := addEdge_spec h d hu hv hk
    have hdd : ((h.edgeData? u v).getD {}).update d = d := by
      cases hl : h.edgeData? u v with
      | none => exact Bond.update_empty d
      | some e =>
        rcases hst _ List.mem_cons_self e hl with rfl | rfl
        · exact Bond.update_empty d
        · exact Bond.update_self _
    rw [hdd] at s4
    have hco' : ∀ t ∈ r, Joins (u, v, d) t.1 t.2.1 → d = t.2.2 := fun t ht =>
      hco _ List.mem_cons_self t (List.mem_cons_of_mem _ ht)
    have hst' : ∀ t ∈ r, ∀ e, (h.addEdge u v d).edgeData? t.1 t.2.1 = some e → e = {} ∨ e = t.2.2 := by
      intro t ht e he
      rw [s4] at he
      by_cases hj : Joins (u, v, d) t.1 t.2.1
      · rw [if_pos hj] at he
        exact Or.inr ((Option.some.inj he).symm.trans (hco' t ht hj))
      · rw [if_neg hj] at he
        exact hst t (List.mem_cons_of_mem _ ht) e he
    obtain ⟨i1, i2, i3, i4⟩ := ih (h.addEdge u v d)
      (fun t ht => by rw [s1]; exact hes t (List.mem_cons_of_mem _ ht)) s3 hst'
      (fun t ht t' ht' => hco t (List.mem_cons_of_mem _ ht) t' (List.mem_cons_of_mem _ ht')) hh
    refine ⟨i1.trans s1, fun x => (i2 x).trans (s2 x), i3, fun x y e => ?_⟩
    rw [i4, s4]
    constructor
    · rintro (⟨t, ht, hj⟩ | ⟨hn, he⟩)
      · exact Or.inl ⟨t, List.mem_cons_of_mem _ ht, hj⟩
      · by_cases hj : Joins (u, v, d) x y
        · rw [if_pos hj] at he
          exact Or.inl ⟨_, List.mem_cons_self, hj, Option.some.inj he⟩
        · rw [if_neg hj] at he
          exact Or.inr ⟨fun t ht => (List.mem_cons.1 ht).elim (fun h => h ▸ hj) (hn t), he⟩
    · rintro (⟨t, ht, hj, he⟩ | ⟨hn, he⟩)
      · rcases List.mem_cons.1 ht with rfl | ht
        · by_cases hr : ∃ t' ∈ r, Joins t' x y
          · obtain ⟨t', ht', hj'⟩ := hr
            exact Or.inl ⟨t', ht', hj', (hco' t' ht' (hj'.of_same hj)).symm.trans he⟩
          · exact Or.inr ⟨fun t' ht' hj' => hr ⟨t', ht', hj'⟩, by rw [if_pos hj]; exact congrArg some he⟩
        · exact Or.inl ⟨t, ht, hj, he⟩
      · exact Or.inr ⟨fun t ht => hn t (List.mem_cons_of_mem _ ht),
          by rw [if_neg (hn _ List.mem_cons_self)]; exact he⟩

/-- `h` is the graph with nodes `L`, attributes `A` and, in both orientations, the edges `done` -/
structure Inv (L : List Nat) (A : Nat → Option Atom) (h : Graph) (done : List (Nat × Nat × Bond)) :
    Prop where
  labels : h.labels = L
  attrs : ∀ a, h.attrs? a = A a
  nbrs : ∀ a w d, (w, d) ∈ h.nbrsD a ↔ ((a, w, d) ∈ done ∨ (w, a, d) ∈ done)
  keys : ∀ a, ((h.nbrsD a).map (·.1)).Nodup

/-- `hd`: the edges already there are blank and come again in `es`, as in the second `add_edges_from` of
`graph_from_molecule` (the first one adds the keys only); otherwise `done = []`. -/
theorem Inv.foldl {L : List Nat} {A : Nat → Option Atom} {h : Graph} {done : List (Nat × Nat × Bond)}
    (inv : Inv L A h done) (es : List (Nat × Nat × Bond)) (hes : ∀ t ∈ es, t.1 ∈ L ∧ t.2.1 ∈ L)
    (hco : ∀ t ∈ es, ∀ t' ∈ es, Joins t t'.1 t'.2.1 → t.2.2 = t'.2.2)
    (hd : ∀ s ∈ done, s.2.2 = {} ∧ ∃ t ∈ es, Joins t s.1 s.2.1) :
    Inv L A (es.foldl (fun h (u, v, d) => h.addEdge u v d) h) es := by
  have hdone : ∀ x y e, h.edgeData? x y = some e → e = {} ∧ ∃ t ∈ es, Joins t x y := by
    intro x y e he
    rcases (inv.nbrs x y e).1 ((mem_nbrsD_iff_edgeData? (inv.keys x)).2 he) with hm | hm
    · exact hd _ hm
    · obtain ⟨hb, t, ht, hj⟩ := hd _ hm
      exact ⟨hb, t, ht, hj.symm⟩
  obtain ⟨i1, i2, i3, i4⟩ := foldl_addEdge es h (fun t ht => inv.labels ▸ hes t ht) inv.keys
    (fun t _ e he => Or.inl (hdone _ _ e he).1) hco rfl
  refine ⟨i1.trans inv.labels, fun a => (i2 a).trans (inv.attrs a), fun a w d => ?_, i3⟩
  rw [mem_nbrsD_iff_edgeData? (i3 a), i4]
  constructor
  · rintro (⟨⟨u, v, d'⟩, ht, hj | hj, rfl⟩ | ⟨hn, he⟩)
    · exact Or.inl (hj.1 ▸ hj.2 ▸ ht)
    · exact Or.inr (hj.1 ▸ hj.2 ▸ ht)
    · obtain ⟨t, ht, hj⟩ := (hdone _ _ _ he).2
      exact absurd hj (hn t ht)
  · rintro (ht | ht)
    · exact Or.inl ⟨_, ht, Or.inl ⟨rfl, rfl⟩, rfl⟩
    · exact Or.inl ⟨_, ht, Or.inr ⟨rfl, rfl⟩, rfl⟩

theorem Inv.of_nil {h : Graph} (hn : ∀ x, h.nbrsD x = []) : Inv h.labels h.attrs? h [] :=
  ⟨rfl, fun _ => rfl, fun a w d => by rw [hn]; simp, fun a => by rw [hn]; exact List.nodup_nil⟩

theorem Inv.wf {L : List Nat} {A : Nat → Option Atom} {h : Graph} {E : List (Nat × Nat × Bond)}
    (inv : Inv L A h E) (hnd : L.Nodup) (hE : ∀ t ∈ E, t.1 ∈ L ∧ t.2.1 ∈ L) : h.WF := by
  refine Graph.WF.of_obs (inv.labels ▸ hnd) inv.keys (fun a w d he => ?_)
  have he' := (inv.nbrs a w d).1 he
  refine ⟨?_, (inv.nbrs w a d).2 he'.symm⟩
  rw [inv.labels]
  exact he'.elim (fun h => (hE _ h).2) (fun h => (hE _ h).1)

theorem Inv.simple {L : List Nat} {A : Nat → Option Atom} {h : Graph} {E : List (Nat × Nat × Bond)}
    (inv : Inv L A h E) (hnd : L.Nodup) (hE : ∀ t ∈ E, t.1 ≠ t.2.1) : h.Simple :=
  Graph.Simple.of_obs (inv.labels ▸ hnd) fun a w d he =>
    ((inv.nbrs a w d).1 he).elim (fun h hc => hE _ h hc.symm) (fun h => hE _ h)

/-- a node as `add_node(f n, **attrs)` creates it -/
def bare (f : Nat → Nat) (n : Node) : Node := ⟨f n.id, n.attrs, []⟩

/-- `E` may list an adjacency entry in either orientation and more than once: `adjEntries` (in `copy`) has
each bond twice, `edges` once. -/
theorem rebuild_spec {f : Nat → Nat} {g : Graph} (hw : g.WF)
    (hinj : ∀ a ∈ g.labels, ∀ b ∈ g.labels, f a = f b → a = b)
    {ns : List Node} (hp : ns.Perm g.nodes) {E : List (Nat × Nat × Bond)}
    (hE : ∀ a w d, (w, d) ∈ g.nbrsD a ↔ ((a, w, d) ∈ E ∨ (w, a, d) ∈ E))
    {h : Graph} (hh : h = E.foldl (fun h (u, v, d) => h.addEdge (f u) (f v) d) ⟨ns.map (bare f)⟩) :
    Relabel f g h ∧ h.labels = ns.map fun n => f n.id := by
  generalize hh0 : (⟨ns.map (bare f)⟩ : Graph) = h0 at hh
  have hL : h0.labels = ns.map fun n => f n.id := hh0 ▸ List.map_map
  have hpL : h0.labels.Perm (g.labels.map f) := by
    rw [hL, g.map_labels]
    exact hp.map _
  have hnd0 : h0.labels.Nodup := hpL.nodup_iff.2 (List.Nodup.map_on f hw.nodup hinj)
  have hn0 : ∀ x, h0.nbrsD x = [] :=
    nbrsD_eq_nil_of (hh0 ▸ List.forall_mem_map.2 fun _ _ => rfl)
  have hA : ∀ n ∈ ns, h0.attrs? (f n.id) = some n.attrs := fun n hn =>
    attrs?_of_mem (n := bare f n) hnd0 (hh0 ▸ List.mem_map_of_mem hn)
  have hmemL : ∀ x ∈ g.labels, f x ∈ h0.labels := fun x hx => hpL.mem_iff.2 (List.mem_map_of_mem hx)
  -- the edges that are added: each is the image of an adjacency entry of `g`
  have hpre : ∀ t ∈ E, t.1 ∈ g.labels ∧ t.2.1 ∈ g.labels ∧ (t.2.1, t.2.2) ∈ g.nbrsD t.1 := fun t ht =>
    have hm := (hE t.1 t.2.1 t.2.2).2 (Or.inl ht)
    ⟨mem_labels_of_mem_nbrsD hm, hw.closedD hm, hm⟩
  have hes : ∀ t ∈ E, f t.1 ∈ h0.labels ∧ f t.2.1 ∈ h0.labels := fun t ht =>
    ⟨hmemL _ (hpre t ht).1, hmemL _ (hpre t ht).2.1⟩
  have hco : ∀ t ∈ E, ∀ t' ∈ E, Joins (f t.1, f t.2.1, t.2.2) (f t'.1) (f t'.2.1) → t.2.2 = t'.2.2 := by
    intro t ht t' ht' hj
    obtain ⟨hx, hy, hm⟩ := hpre t ht
    obtain ⟨hx', hy', hm'⟩ := hpre t' ht'
    rcases hj with ⟨h1, h2⟩ | ⟨h1, h2⟩
    · rw [← hinj _ hx _ hx' h1, ← hinj _ hy _ hy' h2] at hm'
      exact hw.uniqueD hm hm'
    · rw [← hinj _ hx _ hy' h1, ← hinj _ hy _ hx' h2] at hm'
      exact hw.uniqueD hm (hw.symmD hm')
  have inv : Inv h0.labels h0.attrs? h (E.map fun t => (f t.1, f t.2.1, t.2.2)) := by
    have := (Inv.of_nil hn0).foldl _ (List.forall_mem_map.2 hes)
      (List.forall_mem_map.2 fun t ht => List.forall_mem_map.2 (hco t ht)) fun _ h => nomatch h
    rw [List.foldl_map] at this
    rw [hh]
    exact this
  refine ⟨⟨inv.labels ▸ hpL, hinj, fun a ha => ?_, fun a ha => ?_⟩, inv.labels.trans hL⟩
  · obtain ⟨n, hn, rfl⟩ := List.mem_map.1 ha
    rw [inv.attrs, hA n (hp.mem_iff.2 hn), attrs?_of_mem hw.nodup hn]
  have nd2 : ((g.nbrsD a).map fun e => (f e.1, e.2)).Nodup := by
    refine List.Nodup.map_on _ (List.Nodup.of_map _ (hw.nodupD a)) ?_
    intro p hp q hq hpq
    rw [Prod.mk.injEq] at hpq
    exact Prod.ext (hinj _ (hw.closedD (b := p.1) (d := p.2) hp) _
      (hw.closedD (b := q.1) (d := q.2) hq) hpq.1) hpq.2
  rw [List.perm_ext_iff_of_nodup (List.Nodup.of_map _ (inv.keys (f a))) nd2]
  rintro ⟨y', e⟩
  rw [inv.nbrs, List.mem_map, List.mem_map, List.mem_map]
  constructor
  · rintro (⟨t, ht, he⟩ | ⟨t, ht, he⟩) <;> rw [Prod.mk.injEq, Prod.mk.injEq] at he <;>
      obtain ⟨hx, hy, hm⟩ := hpre t ht
    · rw [hinj _ hx a ha he.1] at hm
      exact ⟨_, hm, Prod.ext he.2.1 he.2.2⟩
    · rw [hinj _ hy a ha he.2.1] at hm
      exact ⟨_, hw.symmD hm, Prod.ext he.1 he.2.2⟩
  · rintro ⟨⟨y, e'⟩, hm, heq⟩
    rw [Prod.mk.injEq] at heq
    obtain ⟨rfl, rfl⟩ := heq
    exact ((hE a y e').1 hm).imp (fun h => ⟨_, h, rfl⟩) (fun h => ⟨_, h, rfl⟩)

theorem mem_adjEntries {g : Graph} (hnd : g.labels.Nodup) (a w : Nat) (d : Bond) :
    (a, w, d) ∈ g.adjEntries ↔ (w, d) ∈ g.nbrsD a := by
  unfold Graph.adjEntries
  rw [List.mem_flatMap]
  constructor
  · rintro ⟨n, hn, ht⟩
    obtain ⟨p, hp, he⟩ := List.mem_map.1 ht
    cases he
    rwa [nbrsD_of_mem hnd hn]
  · intro he
    obtain ⟨n, hn, rfl, hm⟩ := mem_nbrsD he
    exact ⟨n, hn, List.mem_map.2 ⟨(w, d), hm, rfl⟩⟩

theorem foldl_addNodeWith {ns : List Node} (hnd : (ns.map (·.id)).Nodup) :
    ns.foldl (fun h n => h.addNodeWith n.id n.attrs) Graph.empty = ⟨ns.map (bare id)⟩ :=
  foldl_append_nodes (fun h (n : Node) => h.addNodeWith n.id n.attrs) (bare id)
    (fun _ n => addNodeWith_of_not_mem n.attrs) ns Graph.empty hnd

end NxE

theorem sortedNodes_ids (g : Graph) :
    (g.nodes.mergeSort fun a b => decide (a.id ≤ b.id)).map (·.id) = sortN g.labels :=
  List.map_mergeSort_key (fun n : Node => n.id) (List.mergeSort_perm _ _).symm
    ((leN_totalLE.sorted _).imp of_decide_eq_true)

theorem sortedNodes_strict {m : Graph} (hw : m.WF) :
    (m.nodes.mergeSort fun a b => decide (a.id ≤ b.id)).Pairwise (fun a b => a.id < b.id) :=
  List.pairwise_map.1 (sortedNodes_ids m ▸ sortN_strict hw.nodup)

theorem sortMoleculeByLabel_spec {g : Graph} (hw : g.WF) :
    Relabel id g (sortMoleculeByLabel g) ∧ (sortMoleculeByLabel g).labels = sortN g.labels := by
  have hp := List.mergeSort_perm g.nodes fun a b => decide (a.id ≤ b.id)
  obtain ⟨rl, hl⟩ := NxE.rebuild_spec (f := id) hw (fun _ _ _ _ h => h) hp
    (NxE.mem_nbrsD_iff_edges hw) (h := sortMoleculeByLabel g)
    (by rw [← NxE.foldl_addNodeWith ((hp.map _).nodup_iff.2 hw.nodup)]; rfl)
  exact ⟨rl, hl.trans (sortedNodes_ids g)⟩

end Tucan
