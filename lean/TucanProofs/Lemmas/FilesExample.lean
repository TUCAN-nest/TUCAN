import TucanProofs.Lemmas.Files
/-!
# A concrete pair of files: the hypotheses of the file-level theorems are satisfiable

The molecule `[13C]-O(-)-D`: a carbon of mass 13, an oxygen with charge −1, a deuterium written `D`;
bonds C–O and O–D.  Its V3000 file (the second atom line written with runs of blanks and split over two
physical lines inside a token) and its V2000 file (charge by an `M  CHG` line with a decoy charge code in the
atom block, isotope by an `M  ISO` line, an unrelated line in between) are shown to meet every hypothesis of
`C08_readers_agree` / `C08_same_string` / `C06_files_same_string`.
-/
namespace Tucan
namespace FilesExample

def mol : Mol :=
  { atoms := [{ sym := ['C'], chg := 0, rad := 0, mass := 13 },
              { sym := ['O'], chg := -1, rad := 0, mass := 0 },
              { sym := ['D'], chg := 0, rad := 0, mass := 0 }],
    bonds := [{ a := 0, b := 1, t := 1 }, { a := 1, b := 2, t := 1 }] }

def coords3 : List (Str × Str × Str) :=
  [(cs "0", cs "0", cs "0"), (cs "1.5", cs "0", cs "0"), (cs "2.5", cs "0", cs "0")]

def atoms3 : List AtomEntry :=
  [.real (cs "1") 1 ['C'] (cs "0") (cs "0") (cs "0") (cs "0") [.mass 13],
   .real (cs "2") 2 ['O'] (cs "1.5") (cs "0") (cs "0") (cs "0") [.other (cs "CFG=0"), .chg (-1)],
   .real (cs "3") 3 ['D'] (cs "2.5") (cs "0") (cs "0") (cs "0") []]

def bonds3 : List BondEntry :=
  [{ idxTok := cs "1", btype := 1, a1 := 1, a2 := 2, pre := [], ends := none, post := [] },
   { idxTok := cs "2", btype := 1, a1 := 2, a2 := 3, pre := [], ends := none, post := [] }]

def lines3 : List Str :=
  [cs "", cs "  example", cs "", cs "  0  0  0     0  0            999 V3000",
   cs "M  V30 BEGIN CTAB",
   cs "M  V30 COUNTS 3 2 0 0 0",
   cs "M  V30 BEGIN ATOM",
   cs "M  V30 1 C 0 0 0 0 MASS=13",
   cs "M  V30 2   O 1.-",
   cs "M  V30 5 0  0 0 CFG=0 CHG=-1",
   cs "M  V30 3 D 2.5 0 0 0",
   cs "M  V30 END ATOM",
   cs "M  V30 BEGIN BOND",
   cs "M  V30 1 1 1 2",
   cs "M  V30 2 1 2 3",
   cs "M  V30 END BOND",
   cs "M  V30 END CTAB",
   cs "M  END"]

def atoms2 : List V2Atom :=
  [{ fx := cs "    0.0000", fy := cs "    0.0000", fz := cs "    0.0000", sym := ['C'], code := 0, z := 6, tail := cs "  0  0" },
   { fx := cs "    1.5000", fy := cs "    0.0000", fz := cs "    0.0000", sym := ['O'], code := 3, z := 8, tail := cs "  0  0" },
   { fx := cs "    2.5000", fy := cs "    0.0000", fz := cs "    0.0000", sym := ['D'], code := 0, z := 1, tail := [] }]

def bonds2 : List V2Bond :=
  [{ a := 1, b := 2, t := 1, tail := cs "  0" }, { a := 2, b := 3, t := 1, tail := cs "  0" }]

def block : List BlockLine :=
  [.assign .chg [(1, -1)], .other, .assign .mass [(0, 13)]]

def lines2 : List Str :=
  [cs "", cs "  example", cs "",
   cs "  3  2  0  0  0  0  0  0  0  0999 V2000",
   cs "    0.0000    0.0000    0.0000 C   0  0  0  0",
   cs "    1.5000    0.0000    0.0000 O   0  3  0  0",
   cs "    2.5000    0.0000    0.0000 D   0  0",
   cs "  1  2  1  0",
   cs "  2  3  1  0",
   cs "M  CHG  1   2  -1",
   cs "M  STY  1   1 SUP",
   cs "M  ISO  1   1  13",
   cs "M  END",
   cs "$$$$"]

theorem mol_ok : mol.Ok := by decide +kernel

theorem isV3000File : IsV3000File lines3 atoms3 bonds3 := by
  refine IsV3000File.of_plain (cs "") (cs "  example") (cs "") (cs "  0  0  0     0  0            999 V3000")
    [cs "BEGIN", cs "CTAB"] [cs "0", cs "0", cs "0"] [cs "M  V30 END CTAB", cs "M  END"]
    (pAtoms := (atoms3.map fun e => plain e.toks).set 1
      (physicalLines [cs "2   O 1."] (cs "5 0  0 0 CFG=0 CHG=-1"))) ?_ ?_
  · refine .cons (rendered_plain (by decide +kernel)) (.cons ?_ (.cons (rendered_plain (by decide +kernel)) .nil))
    -- the second atom line: the extra blanks after each token but the last, and the split inside the token `1.5`
    refine ⟨⟨0, 0, [2, 0, 0, 1, 0, 0, 0], [cs "2   O 1."], cs "5 0  0 0 CFG=0 CHG=-1", ?parts, rfl, ?noDash⟩,
      ?tokens⟩
    case parts =>
      simp (disch := rfl) only [cs, toList_lit]
      decide +kernel
    case noDash =>
      simp (disch := rfl) only [cs, toList_lit]
      decide +kernel
    case tokens => decide +kernel
  · simp (disch := rfl) only [lines3, cs, toList_lit]
    decide +kernel

theorem v3States : V3States mol coords3 atoms3 bonds3 :=
  { nAtoms := ⟨rfl, rfl⟩
    nBonds := rfl
    atom := by decide +kernel
    bond := by unfold V3StatesBond; decide +kernel }

theorem version3 : ∀ l3, lines3[3]? = some l3 → EndsInWord l3 (cs "V3000") := by
  intro l3 h
  obtain rfl := Option.some.inj h
  exact versionLine_v3000

theorem isV2000File : IsV2000File lines2 atoms2 bonds2 block := by
  refine IsV2000File.of_propTexts (cs "") (cs "  example") (cs "") (cs "  0  0  0  0  0  0  0999 V2000") []
    [.chg [(2, -1)], .other (cs "M  STY  1   1 SUP"), .iso [(1, 13)]] [cs "$$$$"] ?_
  simp (disch := rfl) only [lines2, cs, toList_lit]
  decide +kernel

theorem v2States : V2States mol atoms2 bonds2 block :=
  { nAtoms := rfl
    nBonds := rfl
    sym := by decide +kernel
    chgRad := .inr ⟨rfl, by decide +kernel, by decide +kernel⟩
    iso := by decide +kernel
    bond := by decide +kernel }

theorem version2 : ∀ l3, lines2[3]? = some l3 → EndsInWord l3 (cs "V2000") := by
  intro l3 h
  obtain rfl := Option.some.inj h
  refine ⟨cs "  3  2  0  0  0  0  0  0  0  0999", [], ?_, nofun, by decide +kernel⟩
  simp (disch := rfl) only [cs, toList_lit]
  rfl

theorem isTextOf3 : IsTextOf (fileText ['\r', '\n'] lines3) lines3 := by
  refine ⟨?_, ['\r', '\n'], Or.inr (Or.inl rfl), Or.inl rfl⟩
  simp (disch := rfl) only [lines3, cs, toList_lit, WR.NoBreak]
  decide +kernel

theorem isTextOf2 : IsTextOf (fileTextNoTrail ['\n'] lines2) lines2 := by
  refine ⟨?_, ['\n'], Or.inl rfl, Or.inr ⟨rfl, ?_⟩⟩
  · simp (disch := rfl) only [lines2, cs, toList_lit, WR.NoBreak]
    decide +kernel
  · intro l h
    obtain rfl := Option.some.inj h
    decide +kernel

theorem readers_agree :
    graphAttributesV3000 lines3 = .ok (mol.atomDict coords3, mol.bondDict) ∧
    graphAttributesV2000 lines2 = .ok (mol.atomDict (v2Coords atoms2), mol.bondDict) :=
  ⟨v3000_reads_mol mol_ok isV3000File v3States,
   v2000_reads_mol_rep mol_ok isV2000File v2States.toRep⟩

theorem texts_read :
    ReadsAs (fileText ['\r', '\n'] lines3) mol coords3 ∧ ReadsAs (fileTextNoTrail ['\n'] lines2) mol (v2Coords atoms2) :=
  ⟨v3000_text_reads_mol mol_ok isTextOf3 isV3000File version3 v3States,
   v2000_text_reads_mol_rep mol_ok isTextOf2 isV2000File version2 v2States.toRep⟩

end FilesExample
end Tucan
