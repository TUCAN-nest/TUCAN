import TucanProofs.Examples
import TucanProofs.Lemmas.Domain
/-!
# A concrete pair of descriptions of one molecule (non-vacuity of the invariance theorems)

`exGraph` (atoms 0 = ¹³C, 1 = C⁺, 2 = O; bonds 0–1, 1=2; listed 2, 0, 1) and `exGraphR`: the same molecule with
atom `a` renamed `(a + 1) % 3`, listed in another order, neighbours in another order, other bond types, no charge.
-/
namespace Tucan

def exRename (a : Nat) : Nat := (a + 1) % 3

def exGraphR : Graph := ⟨[
  ⟨1, exAtomC13, [(2, { btype := some 4 })]⟩,
  ⟨2, { exAtomC with chg := none }, [(0, { btype := some 1 }), (1, { btype := some 4 })]⟩,
  ⟨0, exAtomO, [(2, { btype := some 1 })]⟩]⟩

theorem exGraphR_wf : exGraphR.WF := by
  refine ⟨by decide, ?_, ?_, ?_⟩ <;> decide

theorem exGraphR_simple : exGraphR.Simple := by
  unfold Graph.Simple; decide

theorem exAtomO_chem : exAtomO.Chem := ⟨8, rfl, by decide +kernel, rfl, by decide, by decide⟩
theorem exAtomC13_chem : exAtomC13.Chem := ⟨6, rfl, by decide +kernel, rfl, by decide, by decide⟩
theorem exAtomC_chem : exAtomC.Chem := ⟨6, rfl, by decide +kernel, rfl, by decide, by decide⟩

/-- non-vacuity: the example molecule is in the round trip's domain -/
theorem exGraph_molAtoms : exGraph.MolAtoms :=
  Graph.forall_attrs?_of_nodes <| by
    simp only [exGraph, List.forall_mem_cons]
    exact ⟨⟨exAtomO_chem, ⟨_, rfl⟩, nofun, nofun⟩,
      ⟨exAtomC13_chem, ⟨_, rfl⟩, fun v hv => by cases hv; decide +kernel, nofun⟩,
      ⟨exAtomC_chem, ⟨_, rfl⟩, nofun, nofun⟩, fun _ h => nomatch h⟩

theorem exGraph_chem : exGraph.Chem := exGraph_molAtoms.chem

theorem exGraph_iso : Iso SameIdent exRename exGraph exGraphR := by
  refine ⟨by decide, by decide, ?_, by decide⟩
  intro a ha
  have ha' : a = 2 ∨ a = 0 ∨ a = 1 := by simpa [exGraph, Graph.labels] using ha
  rcases ha' with rfl | rfl | rfl
  · exact ⟨exAtomO, exAtomO, by decide, by decide, rfl, rfl, rfl, rfl, rfl⟩
  · exact ⟨exAtomC13, exAtomC13, by decide, by decide, rfl, rfl, rfl, rfl, rfl⟩
  · exact ⟨exAtomC, { exAtomC with chg := none }, by decide, by decide, rfl, rfl, rfl, rfl, rfl⟩

theorem exRename_ne_id : exRename ≠ id := fun h => absurd (congrFun h 0) (by decide)

end Tucan
