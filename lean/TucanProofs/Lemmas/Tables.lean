import TucanModel.Parser
import TucanModel.Molfile
import TucanModel.Serialize
import TucanProofs.Lemmas.Basics.List
import TucanProofs.Lemmas.Basics.AList
import TucanProofs.Lemmas.Basics.Text
/-!
# Facts about the regenerated tables

`TucanModel/Generated/Tables.lean` is rewritten from `/repo`'s working tree on every run by
`tools/extract_tables.py`.  The closed statements about those tables are re-checked by the kernel
(`decide +kernel`; `rfl` where two tables are compared, which compares string literals as such) against what
the source says *now*.  If somebody edits the element table, the grammar (`tucan.g4` or the generated
parser/lexer), the charge codes or the key maps, the corresponding statement stops checking.

Turning the `String`s of a table into characters costs the kernel more than all that is then asked of them, so it is done
once: the symbols, the lexer's literals and the two rule orders are looked at in one evaluation (`tables_evaluated`).  What
the proofs use is derived from it by argument, lookups from the distinctness of the keys.  Which symbol carries which
number, and where a literal stands in the lexer's list, is not looked at here (that is `TablesPin`); only that the rows of
the element table are numbered 1 … 118 in order (`elementTable_wellFormed`).
-/
namespace Tucan
open Tables

def elementSymbols : List String := elementTable.map (·.1)

/-- `Nodup` of numbers as a boolean: the `Decidable` instance of `Nodup` is several times as dear to evaluate -/
def distinct : List Nat → Bool
  | [] => true
  | a :: l => l.all (fun b => !Nat.beq a b) && distinct l

theorem nodup_of_distinct : ∀ {l : List Nat}, distinct l = true → l.Nodup
  | [], _ => .nil
  | a :: l, h => by
    simp only [distinct, Bool.and_eq_true, List.all_eq_true, Bool.not_eq_true'] at h
    exact List.nodup_cons.2 ⟨fun ha => by simpa using h.1 a ha, nodup_of_distinct h.2⟩

def symbolShapeOk (s : Str) : Bool :=
  match s with
  | [a] => isUpper a
  | [a, b] => isUpper a && isLower b
  | _ => false

def elementSyms : List Str := elementSymbols.map String.toList

/-- a text as one number (base 2³², first character least significant) -/
def code : Str → Nat
  | [] => 0
  | c :: r => c.toNat + 1 + 4294967296 * code r

theorem code_inj : ∀ {s t : Str}, code s = code t → s = t
  | [], [], _ => rfl
  | [], d :: u, h => by rw [code, code, Nat.add_right_comm] at h; cases h
  | c :: r, [], h => by rw [code, code, Nat.add_right_comm] at h; cases h
  | c :: r, d :: u, h => by
    -- the digits `toNat + 1` are at most the base: the last digit and the rest are determined
    have key : ∀ {B a b x y : Nat}, a < B → b < B → a + 1 + B * x = b + 1 + B * y → a = b ∧ x = y := by
      intro B a b x y ha hb h
      rw [Nat.add_right_comm, Nat.add_right_comm b] at h
      have h := Nat.add_right_cancel h
      have hm := congrArg (· % B) h
      have hd := congrArg (· / B) h
      simp only [Nat.add_mul_mod_self_left, Nat.mod_eq_of_lt ha, Nat.mod_eq_of_lt hb] at hm
      simp only [Nat.add_mul_div_left _ _ (Nat.zero_lt_of_lt ha), Nat.div_eq_of_lt ha, Nat.div_eq_of_lt hb,
        Nat.zero_add] at hd
      exact ⟨hm, hd⟩
    obtain ⟨h1, h2⟩ := key c.val.toNat_lt d.val.toNat_lt h
    rw [Char.toNat_inj.1 h1, code_inj h2]

/-- `l₁ ⊆ l₂`, tested on `code`s with `Nat.beq`: the kernel compares numbers many times faster than `Char`s -/
def subsetCodes (l₁ l₂ : List Str) : Bool := l₁.all fun s => (l₂.map code).any (Nat.beq (code s))

theorem subset_of_subsetCodes {l₁ l₂ : List Str} (h : subsetCodes l₁ l₂ = true) : l₁ ⊆ l₂ := by
  intro s hs
  obtain ⟨x, hx, e⟩ := List.any_eq_true.1 (List.all_eq_true.1 h s hs)
  obtain ⟨t, ht, rfl⟩ := List.mem_map.1 hx
  exact code_inj (Nat.eq_of_beq_eq_true e) ▸ ht

/-- the lexer's literal tokens that are no element symbols -/
def fixedLiterals : List Str :=
  [['/'], ['('], ['-'], [')'], [':'], [','], ['='], ['m', 'a', 's', 's'], ['r', 'a', 'd'], ['1'], ['2'], ['3'], ['4'],
    ['5'], ['6'], ['7'], ['8'], ['9']]

/-- strictly ascending in code-point order (Python's `sorted` order on `str`) -/
def chainLt : List Str → Bool
  | a :: b :: r => decide (a < b) && chainLt (b :: r)
  | _ => true

/-- the element symbols against the lexer's literal list: the symbols are different texts, have their shape, `C` and `H`
are among them, `D` and `T` are not, and the symbols and the fixed literals — different texts none of which has the shape of
a symbol — are literal tokens, as many as there are -/
abbrev SymbolFacts : Prop :=
  distinct (elementSyms.map code) = true ∧
  elementSyms.all symbolShapeOk = true ∧
  (['C'] ∈ elementSyms ∧ ['H'] ∈ elementSyms ∧ ['D'] ∉ elementSyms ∧ ['T'] ∉ elementSyms) ∧
  subsetCodes (elementSyms ++ fixedLiterals) literals = true ∧
  literals.length = elementSyms.length + fixedLiterals.length ∧
  distinct (fixedLiterals.map code) = true ∧ fixedLiterals.all (!symbolShapeOk ·) = true

/-- the two formula rules.  `without_carbon` is a chain of optional element rules for elements other than carbon, as many
as there are, in strictly ascending code-point order — the order `sorted()` gives the Hill writer (ascending, so each
once, so all of them: `mem_withoutCarbonOrder`); `with_carbon` is C (mandatory), then H, then `without_carbon` minus H,
all optional -/
abbrev FormulaRuleFacts : Prop :=
  (atnWithoutCarbon.isSome = true ∧
    (atnWithoutCarbon.getD []).all (·.2) = true ∧
    chainLt withoutCarbonOrder = true ∧
    subsetCodes withoutCarbonOrder (elementSyms.filter (· != ['C'])) = true ∧
    withoutCarbonOrder.length = (elementSyms.filter (· != ['C'])).length) ∧
  atnWithCarbon.isSome = true ∧
  (atnWithCarbon.getD []).map (·.2) = false :: List.replicate 117 true ∧
  withCarbonOrder = ['C'] :: ['H'] :: withoutCarbonOrder.filter (· != ['H'])

/-- both in ONE evaluation: what is dear is turning the `String`s of a table into characters, and within one evaluation the
kernel does that once per table -/
theorem tables_evaluated : SymbolFacts ∧ FormulaRuleFacts := by
  decide +kernel

theorem elementSyms_literals : SymbolFacts := tables_evaluated.1

theorem atn_formula_rules : FormulaRuleFacts := tables_evaluated.2

theorem carbon_mem_elementSyms : ['C'] ∈ elementSyms := elementSyms_literals.2.2.1.1

theorem hydrogen_mem_elementSyms : ['H'] ∈ elementSyms := elementSyms_literals.2.2.1.2.1

/-- `D` and `T` are spellings of hydrogen in a molfile, not element symbols -/
theorem isotope_not_mem_elementSyms : ['D'] ∉ elementSyms ∧ ['T'] ∉ elementSyms := elementSyms_literals.2.2.1.2.2

/-- the 118 elements, numbered 1..118 in table order, symbols distinct -/
theorem elementTable_wellFormed :
    elementTable.length = 118 ∧ elementTable.map (·.2) = (List.range 118).map (· + 1) ∧
    elementSymbols.Nodup :=
  have h : elementTable.map (·.2) = (List.range 118).map (· + 1) := by decide +kernel
  ⟨by rw [← List.length_map, h, List.length_map, List.length_range], h, .of_map String.toList (.of_map code (nodup_of_distinct elementSyms_literals.1))⟩

theorem elementTable_Z {e : String × Nat} (h : e ∈ elementTable) : 1 ≤ e.2 ∧ e.2 ≤ 118 := by
  have : e.2 ∈ elementTable.map (·.2) := List.mem_map_of_mem h
  rw [elementTable_wellFormed.2.1] at this
  simp only [List.mem_map, List.mem_range] at this
  omega

theorem elementTable_Z_nodup : (elementTable.map fun e => (e.2 : Int)).Nodup := by
  have : (elementTable.map fun e => (e.2 : Int)) = (elementTable.map (·.2)).map Int.ofNat := by simp
  rw [this, elementTable_wellFormed.2.1, List.map_map]
  exact List.nodup_range.map _ fun a b hab e => hab (Nat.succ.inj (Int.ofNat.inj e))

theorem elementZ_row {e : String × Nat} (h : e ∈ elementTable) : elementZ e.1.toList = some e.2 := by
  unfold elementZ
  rw [String.ofList_toList]
  exact (alookup_eq_some_iff elementTable_wellFormed.2.2).2 h

theorem mem_elementSyms {s : Str} : s ∈ elementSyms ↔ ∃ e ∈ elementTable, e.1.toList = s := by
  simp only [elementSyms, elementSymbols, List.map_map, List.mem_map, Function.comp_apply]

theorem elementZ_elementSyms {s : Str} (h : s ∈ elementSyms) :
    ∃ z, elementZ s = some z ∧ 1 ≤ z ∧ z ≤ 118 := by
  obtain ⟨e, he, rfl⟩ := mem_elementSyms.1 h
  exact ⟨e.2, elementZ_row he, elementTable_Z he⟩

/-- the symbol the table lists for atomic number `z`: the inverse of `elementZ`, a notion of the specification (`Atom.Chem`:
symbol and number of an atom agree), not of the Python source -/
def symOfZ (z : Int) : Option Str :=
  (Tables.elementTable.find? fun e => (e.2 : Int) == z).map (·.1.toList)

theorem symOfZ_spec {z : Int} {s : Str} (h : symOfZ z = some s) :
    s ∈ elementSyms ∧ elementZ s = some z.toNat ∧ 1 ≤ z := by
  obtain ⟨e, hf, rfl⟩ := Option.map_eq_some_iff.1 h
  have hmem := List.mem_of_find?_eq_some hf
  have hz : (e.2 : Int) = z := by simpa using List.find?_some hf
  refine ⟨mem_elementSyms.2 ⟨e, hmem, rfl⟩, ?_, by have := elementTable_Z hmem; omega⟩
  rw [elementZ_row hmem, ← hz]
  rfl

theorem symOfZ_of_elementZ {s : Str} {z : Nat} (h : elementZ s = some z) : symOfZ (z : Int) = some s := by
  unfold elementZ at h
  unfold symOfZ
  rw [List.find?_key_of_mem (fun e : String × Nat => (e.2 : Int)) elementTable_Z_nodup (mem_of_alookup h),
    Option.map_some, String.toList_ofList]

theorem elementSymbols_shape : elementSyms.all symbolShapeOk = true :=
  elementSyms_literals.2.1

/-- by counting: the symbols and the fixed literals are literal tokens, different from each other, and there are no
more -/
theorem mem_literals {l : Str} : l ∈ literals ↔ l ∈ elementSyms ∨ l ∈ fixedLiterals := by
  obtain ⟨hsub, hlen, hfix, hshape⟩ := elementSyms_literals.2.2.2
  have hnd : (elementSyms ++ fixedLiterals).Nodup := by
    refine List.nodup_append.2 ⟨elementTable_wellFormed.2.2.map_on _ fun _ _ _ _ => String.toList_injective,
      .of_map _ (nodup_of_distinct hfix), ?_⟩
    rintro a ha _ hb rfl
    have := List.all_eq_true.1 hshape a hb
    rw [List.all_eq_true.1 elementSymbols_shape a ha] at this
    cases this
  have h1 := subset_of_subsetCodes hsub
  have h2 := hnd.subset_of_length_le h1 (by rw [List.length_append, hlen]; exact Nat.le_refl _)
  rw [← List.mem_append]
  exact ⟨@h2 l, @h1 l⟩

theorem symbolShape_tok {s : Str} (h : symbolShapeOk s = true) :
    digit1to9 s = false ∧ s ≠ ['/'] ∧ ∃ c r, s = c :: r ∧ isUpper c = true := by
  unfold symbolShapeOk at h
  split at h
  · next a => exact ⟨by simpa [digit1to9] using isUpper_not_digit19 h, by rintro ⟨⟩; exact absurd h (by decide), a, [], rfl, h⟩
  · next a b =>
    simp only [Bool.and_eq_true] at h
    exact ⟨rfl, by simp, a, [b], rfl, h.1⟩
  · cases h

theorem pairwise_of_chainLt (l : List Str) (h : chainLt l = true) : l.Pairwise (· < ·) := by
  induction l with
  | nil => exact List.Pairwise.nil
  | cons a t ih =>
    cases t with
    | nil => simp
    | cons b r =>
      simp only [chainLt, Bool.and_eq_true, decide_eq_true_eq] at h
      have ht := ih h.2
      refine List.pairwise_cons.mpr ⟨?_, ht⟩
      intro x hx
      rcases List.mem_cons.mp hx with rfl | hx
      · exact h.1
      · exact List.lt_trans h.1 ((List.pairwise_cons.mp ht).1 x hx)

theorem withoutCarbonOrder_chain : chainLt withoutCarbonOrder = true := atn_formula_rules.1.2.2.1

theorem withoutCarbonOrder_pairwise : withoutCarbonOrder.Pairwise (· < ·) :=
  pairwise_of_chainLt _ withoutCarbonOrder_chain

theorem withoutCarbonOrder_nodup : withoutCarbonOrder.Nodup :=
  withoutCarbonOrder_pairwise.imp Std.ne_of_lt

theorem mem_withoutCarbonOrder (s : Str) : s ∈ withoutCarbonOrder ↔ s ∈ elementSyms ∧ s ≠ ['C'] := by
  have h := atn_formula_rules.1.2.2.2
  have h1 := subset_of_subsetCodes h.1
  have h2 := withoutCarbonOrder_nodup.subset_of_length_le h1 (Nat.le_of_eq h.2.symm)
  simpa using Iff.intro (@h1 s) (@h2 s)

theorem withCarbonOrder_eq :
    withCarbonOrder = ['C'] :: ['H'] :: withoutCarbonOrder.filter (· != ['H']) :=
  atn_formula_rules.2.2.2

theorem withCarbonOrder_nodup : withCarbonOrder.Nodup := by
  rw [withCarbonOrder_eq]
  refine List.nodup_cons.mpr ⟨?_, List.nodup_cons.mpr ⟨?_, withoutCarbonOrder_nodup.filter _⟩⟩
  · intro h
    rcases List.mem_cons.mp h with h | h
    · exact absurd h (by decide)
    · exact ((mem_withoutCarbonOrder _).mp (List.mem_filter.mp h).1).2 rfl
  · intro h
    have := (List.mem_filter.mp h).2
    simp at this

theorem mem_elementSyms_of_mem_order {e : Str} (h : e ∈ withCarbonOrder ++ withoutCarbonOrder) : e ∈ elementSyms := by
  have hwo : ∀ e ∈ withoutCarbonOrder, e ∈ elementSyms := fun e he => ((mem_withoutCarbonOrder e).1 he).1
  rcases List.mem_append.1 h with h | h
  · rw [withCarbonOrder_eq] at h
    rcases List.mem_cons.1 h with rfl | h
    · exact carbon_mem_elementSyms
    rcases List.mem_cons.1 h with rfl | h
    · exact hydrogen_mem_elementSyms
    · exact hwo e (List.mem_filter.1 h).1
  · exact hwo e h

/-- the executing parser tables and the grammar source agree on the two formula rules -/
theorem atn_matches_g4 : atnWithCarbon = g4WithCarbon ∧ atnWithoutCarbon = g4WithoutCarbon ∧
    atnElementRulesWellShaped = true :=
  ⟨rfl, rfl, rfl⟩

/-- the shape of every other parser rule, as the model's recogniser assumes it -/
def expectedRuleShapes : List (String × String) := [
  ("tucan", "0:eps>1;1:rule(sum_formula)>2;2:tok('/')>3;3:rule(tuples)>4;4:eps>5,eps>7;5:tok('/')>6;6:rule(node_attributes)>7;7:eps>8;8:tok(EOF)>9;9:eps>10;10:STOP"),
  ("sum_formula_start", "0:eps>1;1:rule(sum_formula)>2;2:tok(EOF)>3;3:eps>4;4:STOP"),
  ("sum_formula", "0:eps>1;1:eps>2,eps>5;2:rule(with_carbon)>3;3:eps>4;4:STOP;5:rule(without_carbon)>3"),
  ("count", "0:eps>1;1:rule(greater_than_one)>2;2:eps>3;3:STOP"),
  ("tuples_start", "0:eps>1;1:rule(tuples)>2;2:tok(EOF)>3;3:eps>4;4:STOP"),
  ("tuples", "0:eps>1;1:eps>2,eps>6;2:eps>3;3:rule(tuple)>4;4:eps>5;5:eps>1;6:eps>7;7:STOP"),
  ("tuple", "0:eps>1;1:tok('(')>2;2:rule(node_index)>3;3:tok('-')>4;4:rule(node_index)>5;5:tok(')')>6;6:eps>7;7:STOP"),
  ("node_index", "0:eps>1;1:rule(greater_than_zero)>2;2:eps>3;3:STOP"),
  ("node_attributes_start", "0:eps>1;1:rule(node_attributes)>2;2:tok(EOF)>3;3:eps>4;4:STOP"),
  ("node_attributes", "0:eps>1;1:eps>2,eps>6;2:eps>3;3:rule(node_attribute)>4;4:eps>5;5:eps>1;6:eps>7;7:STOP"),
  ("node_attribute", "0:eps>1;1:tok('(')>2;2:rule(node_index)>3;3:tok(':')>4;4:rule(node_property)>5;5:eps>6,eps>11;6:eps>7;7:tok(',')>8;8:rule(node_property)>9;9:eps>10;10:eps>5;11:eps>12;12:tok(')')>13;13:eps>14;14:STOP"),
  ("node_property", "0:eps>1;1:rule(node_property_key)>2;2:tok('=')>3;3:rule(node_property_value)>4;4:eps>5;5:STOP"),
  ("node_property_key", "0:eps>1;1:set('mass'|'rad')>2;2:eps>3;3:STOP"),
  ("node_property_value", "0:eps>1;1:rule(greater_than_zero)>2;2:eps>3;3:STOP"),
  ("greater_than_zero", "0:eps>1;1:eps>2,eps>5;2:tok('1')>3;3:eps>4;4:STOP;5:rule(greater_than_one)>3"),
  ("greater_than_one", "0:eps>1;1:set('2'|'3'|'4'|'5'|'6'|'7'|'8'|'9'|type(137))>2;2:eps>3;3:STOP")]

theorem atn_rule_shapes : atnRuleShapes = expectedRuleShapes :=
  rfl

/-- serializer and parser use inverse key maps, on exactly `mass` and `rad` -/
theorem key_maps : serializerKeys = [("mass", "mass"), ("rad", "rad")] ∧
    deserializerKeys = serializerKeys.map fun (a, b) => (b, a) :=
  ⟨rfl, rfl⟩

/-- the attribute names the model's record fields stand for -/
theorem attribute_names : attributeNames = [
    ("ATOMIC_NUMBER", "atomic_number"), ("CHG", "chg"), ("ELEMENT_SYMBOL", "element_symbol"),
    ("INVARIANT_CODE", "invariant_code"), ("MASS", "mass"), ("PARTITION", "partition"), ("RAD", "rad"),
    ("X_COORD", "x_coord"), ("Y_COORD", "y_coord"), ("Z_COORD", "z_coord"), ("EXPLORED", "explored"),
    ("BOND_TYPE", "bond_type")] :=
  rfl

/-- the V2000 charge codes as the CTfile specification defines them -/
theorem v2000_charge_codes : v2000Charges =
    [(1, some 3, none), (2, some 2, none), (3, some 1, none), (4, none, some 2),
     (5, some (-1), none), (6, some (-2), none), (7, some (-3), none)] :=
  rfl

/-- D and T, and only they, denote hydrogen isotopes -/
theorem hydrogen_isotopes : hydrogenIsotopeSamples =
    [("D", "H", 2), ("T", "H", 3), ("H", "H", 0), ("C", "C", 0), ("d", "d", 0), ("t", "t", 0), ("DD", "DD", 0), ("", "", 0)] :=
  rfl

end Tucan
