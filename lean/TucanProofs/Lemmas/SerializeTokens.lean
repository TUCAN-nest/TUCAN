import TucanProofs.Lemmas.Hill
import TucanProofs.Lemmas.LexRender
import TucanProofs.Lemmas.SentenceShape
import TucanProofs.Lemmas.SerializeRun
/-!
# S6 (string level) — the parser's front end reads back exactly what the serializer wrote

For the sorted molecule `m` the serializer writes `formula "/" tuples ["/" attributes]`.  Lexing that
string and running the recogniser succeeds and returns the syntax tree `astOf m`: the Hill-order items
with their counts, one tuple per bond with the 1-based indices in ascending order, one attribute block
per labelled atom.  The string is the text of an explicit token list (`render_allToks`) that is a sentence of lexer
tokens (`allToks_sentence`), and such a sentence is lexed back from its text (`lex_render_sentence`).
-/
namespace Tucan

/-- the `key=value` pairs `_write_node_attributes` emits for one atom -/
def attrPairs (a : Atom) : List (Str × Str) :=
  (match a.mass with | some v => [("mass".toList, intRepr v)] | none => []) ++
  (match a.rad with | some v => [("rad".toList, intRepr v)] | none => [])

/-- the attribute blocks: atoms in label order that have a mass or a radical -/
def attrsAstOf (m : Graph) : List (Str × List (Str × Str)) :=
  (m.nodes.mergeSort fun a b => decide (a.id ≤ b.id)).filterMap fun n =>
    if (attrPairs n.attrs).isEmpty then none else some (natRepr (n.id + 1), attrPairs n.attrs)

/-- the syntax tree of the serialized molecule -/
def astOf (m : Graph) : Ast :=
  { formula := (hillItems (m.nodes.filterMap (·.attrs.sym))).map fun i => (i.1, countText i.2)
    tuples := (sortedEdges m).map fun e => (natRepr (e.1 + 1), natRepr (e.2 + 1))
    attrs := attrsAstOf m }

theorem mem_attrPairs {a : Atom} {kv : Str × Str} : kv ∈ attrPairs a ↔
    (∃ v, a.mass = some v ∧ kv = ("mass".toList, intRepr v)) ∨ (∃ v, a.rad = some v ∧ kv = ("rad".toList, intRepr v)) := by
  unfold attrPairs
  cases a.mass <;> cases a.rad <;> simp

theorem attrPairs_keys (a : Atom) (h : attrPairs a ≠ []) :
    (attrPairs a).map (·.1) = ["mass".toList] ∨ (attrPairs a).map (·.1) = ["rad".toList] ∨
      (attrPairs a).map (·.1) = ["mass".toList, "rad".toList] := by
  unfold attrPairs at h ⊢
  revert h
  cases a.mass <;> cases a.rad <;> intro h
  · exact absurd rfl h
  · right; left; rfl
  · left; rfl
  · right; right; rfl

theorem mem_attrsAstOf_iff {m : Graph} {b : Str × List (Str × Str)} : b ∈ attrsAstOf m ↔
    ∃ n ∈ m.nodes, attrPairs n.attrs ≠ [] ∧ b = (natRepr (n.id + 1), attrPairs n.attrs) := by
  simp only [attrsAstOf, List.mem_filterMap, List.mem_mergeSort, List.isEmpty_iff]
  constructor
  · rintro ⟨n, hn, h⟩
    split at h
    · cases h
    · next hne => exact ⟨n, hn, hne, (Option.some.inj h).symm⟩
  · rintro ⟨n, hn, hne, rfl⟩
    exact ⟨n, hn, by rw [if_neg hne]⟩

namespace SerTok
open LexRender

theorem key_tok {k : Str} (h : RejectKind.KeyText k) : ValidTok (Tok.lit k) = true ∧ isKey (Tok.lit k) = true := by
  have : keyOk (Tok.lit k) = true := by
    -- (the equations are rewritten with: an `rfl` pattern makes `rcases` take the text literal apart)
    rcases h with h | h <;> rw [h]
    · exact List.all_eq_true.mp Sentence.fixed_toks_ok.2.1 (tk "mass") (by simp)
    · exact List.all_eq_true.mp Sentence.fixed_toks_ok.2.1 (tk "rad") (by simp)
  simp only [keyOk, Bool.and_eq_true] at this
  exact ⟨validTok_of_fixed this.1, this.2⟩

theorem num_tok {ds : Str} (h : Acc.Lit ds) : ValidTok (numTok ds) = true ∧ isGtZero (numTok ds) = true := by
  obtain ⟨n, h1, e⟩ := Acc.lit_iff.1 h
  -- (`subst` would unfold `natRepr`)
  rw [e] at h ⊢
  rw [Hill.numTok_natRepr]
  split
  · next h =>
    have := List.all_eq_true.mp Sentence.fixed_toks_ok.2.2 n (List.mem_range'_1.2 ⟨h1, h⟩)
    simp only [numOk, Bool.and_eq_true] at this
    exact ⟨validTok_of_fixed this.1, this.2⟩
  · obtain ⟨⟨c, r, hcr, hc1, hc9⟩, hdig⟩ := h
    have hlen : ¬ (natRepr n).length ≤ 1 := by
      rw [natRepr_eq_toDigits, Nat.length_toDigits_le_iff (by omega) (by omega)]; omega
    rw [hcr] at hlen hdig ⊢
    have hr : r ≠ [] := by rintro rfl; simp at hlen
    have hd : r.all isDigit = true := List.all_eq_true.2 fun x hx => hdig x (List.mem_cons_of_mem _ hx)
    simp [ValidTok, isGtZero, hc1, hc9, hd, hr]

def tupleToks (es : List (Nat × Nat)) : List Tok :=
  es.flatMap fun e => [tk "(", numTok (natRepr (e.1 + 1)), tk "-", numTok (natRepr (e.2 + 1)), tk ")"]

def pairToks : List (Str × Str) → List Tok
  | [] => []
  | [p] => [Tok.lit p.1, tk "=", numTok p.2]
  | p :: q :: r => Tok.lit p.1 :: tk "=" :: numTok p.2 :: tk "," :: pairToks (q :: r)

def blockToks (b : Str × List (Str × Str)) : List Tok :=
  tk "(" :: numTok b.1 :: tk ":" :: (pairToks b.2 ++ [tk ")"])

def attrToks (bs : List (Str × List (Str × Str))) : List Tok := bs.flatMap blockToks

def allToks (m : Graph) : List Tok :=
  formulaToks (hillItems (m.nodes.filterMap (·.attrs.sym))) ++ tk "/" :: (tupleToks (sortedEdges m) ++
    (if (attrsAstOf m).isEmpty then [] else tk "/" :: attrToks (attrsAstOf m)))

theorem render_nil : render [] = [] := rfl

theorem text_lit (s : Str) : (Tok.lit s).text = s := rfl

theorem render_formulaToks (items : List (Str × Nat)) : render (formulaToks items) = formulaText items := by
  induction items with
  | nil => rfl
  | cons i its ih =>
    rw [Hill.formulaToks_cons, render_cons, render_append, ih]
    simp only [formulaText, List.map_cons, List.flatten_cons, symCount, text_lit]
    split
    · simp [render, Hill.numTok_text]
    · simp [render]

theorem render_tupleToks (es : List (Nat × Nat)) :
    render (tupleToks es) =
      (es.map fun (a, b) => '(' :: natRepr (a + 1) ++ '-' :: natRepr (b + 1) ++ [')']).flatten := by
  induction es with
  | nil => rfl
  | cons e es ih =>
    have : tupleToks (e :: es) = [tk "(", numTok (natRepr (e.1 + 1)), tk "-", numTok (natRepr (e.2 + 1)), tk ")"]
        ++ tupleToks es := by simp [tupleToks]
    rw [this, render_append, ih]
    simp [render, Hill.numTok_text, Sentence.tk_lparen, Sentence.tk_rparen, Sentence.tk_minus, text_lit]

def pairText (p : Str × Str) : Str := p.1 ++ '=' :: p.2

theorem render_pairToks (ps : List (Str × Str)) :
    render (pairToks ps) = joinWith [','] (ps.map pairText) := by
  induction ps using pairToks.induct with
  | case1 => rfl
  | case2 p => simp [pairToks, render, joinWith, pairText, Hill.numTok_text, Sentence.tk_eq, text_lit]
  | case3 p q r ih =>
    rw [pairToks, List.map_cons, List.map_cons, joinWith, ← List.map_cons, ← ih]
    · simp [render, pairText, Hill.numTok_text, Sentence.tk_eq, Sentence.tk_comma, text_lit]
    · simp

theorem render_blockToks (b : Str × List (Str × Str)) :
    render (blockToks b) = '(' :: b.1 ++ ':' :: joinWith [','] (b.2.map pairText) ++ [')'] := by
  rw [blockToks, render_cons, render_cons, render_cons, render_append,
    render_pairToks]
  simp [render, Hill.numTok_text, Sentence.tk_lparen, Sentence.tk_rparen, Sentence.tk_colon, text_lit]

/-- the `key=value` texts `_write_node_attributes` collects for one atom -/
def attrTexts (a : Atom) : List Str :=
  (match a.mass with | some m => ["mass=".toList ++ intRepr m] | none => []) ++
  (match a.rad with | some r => ["rad=".toList ++ intRepr r] | none => [])

theorem attrTexts_eq (a : Atom) : attrTexts a = (attrPairs a).map pairText := by
  unfold attrTexts attrPairs
  cases a.mass <;> cases a.rad <;> simp [pairText]

/-- the text `_write_node_attributes` emits for one atom -/
def nodeStr (n : Node) : Str :=
  if (attrTexts n.attrs).isEmpty then [] else
    '(' :: natRepr (n.id + 1) ++ ':' :: joinWith [','] (attrTexts n.attrs) ++ [')']

def nodeBlock (n : Node) : Option (Str × List (Str × Str)) :=
  if (attrPairs n.attrs).isEmpty then none else some (natRepr (n.id + 1), attrPairs n.attrs)

theorem nodeStr_eq (n : Node) : nodeStr n = render (attrToks (nodeBlock n).toList) := by
  unfold nodeStr nodeBlock
  rw [attrTexts_eq]
  cases attrPairs n.attrs with
  | nil => rfl
  | cons p ps => simp [attrToks, render_blockToks]

theorem writeNodeAttributes_eq (m : Graph) :
    writeNodeAttributes m = render (attrToks (attrsAstOf m)) := by
  have h1 : writeNodeAttributes m =
      ((m.nodes.mergeSort fun a b => decide (a.id ≤ b.id)).map nodeStr).flatten := rfl
  have h2 : attrsAstOf m = (m.nodes.mergeSort fun a b => decide (a.id ≤ b.id)).filterMap nodeBlock := rfl
  rw [h1, h2]
  generalize (m.nodes.mergeSort fun a b => decide (a.id ≤ b.id)) = ns
  induction ns with
  | nil => rfl
  | cons n ns ih =>
    rw [List.map_cons, List.flatten_cons, ih, nodeStr_eq, List.filterMap_cons]
    cases nodeBlock n with
    | none => rfl
    | some b => simp [attrToks, render_append]

theorem writeNodeAttributes_isEmpty (m : Graph) :
    (writeNodeAttributes m).isEmpty = (attrsAstOf m).isEmpty := by
  rw [writeNodeAttributes_eq]
  cases attrsAstOf m with
  | nil => rfl
  | cons b bs =>
    simp [attrToks, blockToks, render, Sentence.tk_lparen, text_lit]

theorem render_allToks (m : Graph) : render (allToks m) = serializedText m := by
  unfold allToks serializedText
  rw [render_append, render_cons, render_append, render_formulaToks, render_tupleToks,
    ← writeSumFormula_eq, writeNodeAttributes_isEmpty]
  have : writeEdgeList m = ((sortedEdges m).map fun (a, b) =>
    '(' :: natRepr (a + 1) ++ '-' :: natRepr (b + 1) ++ [')']).flatten := rfl
  rw [this]
  cases h : (attrsAstOf m).isEmpty with
  | true => simp [render_nil]; rfl
  | false =>
    simp only [Bool.false_eq_true, if_false, render_cons, ← writeNodeAttributes_eq,
      Sentence.tk_slash, text_lit]
    simp

theorem formulaToks_valid {items : List (Str × Nat)} (h : ∀ i ∈ items, i.1 ∈ elementSyms ∧ 1 ≤ i.2) :
    (formulaToks items).all ValidTok = true := by
  rw [formulaToks, List.all_flatMap]
  refine List.all_eq_true.2 fun i hi => ?_
  have h1 := sym_valid (h i hi).1
  have h2 := (num_tok (Acc.lit_natRepr (h i hi).2)).1
  split <;> simp [h1, h2]

theorem tuples_sentence (es : List (Nat × Nat)) :
    Tuples (tupleToks es) (es.map fun e => (natRepr (e.1 + 1), natRepr (e.2 + 1))) ∧
      (tupleToks es).all ValidTok = true := by
  induction es with
  | nil => exact ⟨Tuples.nil, rfl⟩
  | cons e es ih =>
    obtain ⟨v1, h1⟩ := num_tok (Acc.lit_natRepr (Nat.succ_pos e.1))
    obtain ⟨v2, h2⟩ := num_tok (Acc.lit_natRepr (Nat.succ_pos e.2))
    have := Tuples.cons h1 h2 ih.1
    rw [Hill.numTok_text, Hill.numTok_text] at this
    refine ⟨this, ?_⟩
    simp only [tupleToks, List.flatMap_cons, List.cons_append, List.nil_append, List.all_cons, v1, v2,
      punct_valid Sentence.ok_lparen, punct_valid Sentence.ok_minus, punct_valid Sentence.ok_rparen, Bool.true_and]
    exact ih.2

theorem props_sentence (ps : List (Str × Str)) (hne : ps ≠ []) (h : Acc.PropsOk ps) :
    Props (pairToks ps) ps ∧ (pairToks ps).all ValidTok = true := by
  induction ps using pairToks.induct with
  | case1 => exact absurd rfl hne
  | case2 p =>
    obtain ⟨vk, hk⟩ := key_tok (h p (by simp)).1
    obtain ⟨vn, hn⟩ := num_tok (h p (by simp)).2
    have := Props.one hk hn
    rw [Hill.numTok_text] at this
    refine ⟨this, ?_⟩
    simp only [pairToks, List.all_cons, List.all_nil, vk, vn, punct_valid Sentence.ok_eq, Bool.and_self]
  | case3 p q r ih =>
    obtain ⟨vk, hk⟩ := key_tok (h p (by simp)).1
    obtain ⟨vn, hn⟩ := num_tok (h p (by simp)).2
    obtain ⟨ih1, ih2⟩ := ih (by simp) (fun x hx => h x (List.mem_cons_of_mem _ hx))
    have := Props.more hk hn ih1
    rw [Hill.numTok_text] at this
    rw [pairToks]
    refine ⟨this, ?_⟩
    simp only [List.all_cons, vk, vn, punct_valid Sentence.ok_eq, punct_valid Sentence.ok_comma, Bool.true_and]
    exact ih2

theorem attrs_sentence (bs : List (Str × List (Str × Str))) (h : Acc.AttrsOk bs) :
    Attrs (attrToks bs) bs ∧ (attrToks bs).all ValidTok = true := by
  induction bs with
  | nil => exact ⟨Attrs.nil, rfl⟩
  | cons b bs ih =>
    obtain ⟨hi, hne, hp⟩ := h b (by simp)
    obtain ⟨vi, hi⟩ := num_tok hi
    obtain ⟨ih1, ih2⟩ := ih (fun x hx => h x (List.mem_cons_of_mem _ hx))
    obtain ⟨hp1, hp2⟩ := props_sentence b.2 hne hp
    have := Attrs.cons hi hp1 ih1
    rw [Hill.numTok_text] at this
    have e : attrToks (b :: bs) =
        tk "(" :: numTok b.1 :: tk ":" :: (pairToks b.2 ++ tk ")" :: attrToks bs) := by
      simp [attrToks, blockToks]
    rw [e]
    refine ⟨this, ?_⟩
    simp only [List.all_cons, List.all_append, vi, punct_valid Sentence.ok_lparen, punct_valid Sentence.ok_colon,
      punct_valid Sentence.ok_rparen, hp2, Bool.true_and]
    exact ih2

theorem attrPairs_ok (a : Atom) (hm : ∀ v, a.mass = some v → 0 < v) (hr : ∀ v, a.rad = some v → 0 < v) :
    Acc.PropsOk (attrPairs a) := by
  have lit : ∀ {v : Int}, 0 < v → Acc.Lit (intRepr v) := fun {v} hv =>
    Acc.lit_iff.2 ⟨v.toNat, by omega, intRepr_of_nonneg (Int.le_of_lt hv)⟩
  intro p hp
  rcases mem_attrPairs.1 hp with ⟨v, hv, rfl⟩ | ⟨v, hv, rfl⟩ <;> dsimp only
  · exact ⟨.inl rfl, lit (hm v hv)⟩
  · exact ⟨.inr rfl, lit (hr v hv)⟩

theorem attrsAstOf_ok (m : Graph)
    (hpos : ∀ n ∈ m.nodes, (∀ v, n.attrs.mass = some v → 0 < v) ∧ (∀ v, n.attrs.rad = some v → 0 < v)) :
    Acc.AttrsOk (attrsAstOf m) := by
  intro b hb
  obtain ⟨n, hn, hne, rfl⟩ := mem_attrsAstOf_iff.1 hb
  -- (reducing the projections of the pair first: the unifier would unfold `natRepr` instead)
  dsimp only
  exact ⟨Acc.lit_natRepr (Nat.succ_pos n.id), hne, attrPairs_ok n.attrs (hpos n hn).1 (hpos n hn).2⟩

theorem allToks_sentence (m : Graph)
    (hsyms : ∀ s ∈ m.nodes.filterMap (·.attrs.sym), s ∈ elementSyms)
    (hpos : ∀ n ∈ m.nodes, (∀ v, n.attrs.mass = some v → 0 < v) ∧ (∀ v, n.attrs.rad = some v → 0 < v)) :
    Sentence (allToks m) (astOf m) ∧ (allToks m).all ValidTok = true := by
  have hF := sumFormula_hillItems _ hsyms
  have vF := formulaToks_valid fun i hi =>
    ⟨hsyms _ (mem_hillItems_fst.mp (List.mem_map_of_mem hi)), (hillItems_count hi).1⟩
  obtain ⟨hT, vT⟩ := tuples_sentence (sortedEdges m)
  obtain ⟨hA, vA⟩ := attrs_sentence _ (attrsAstOf_ok m hpos)
  unfold allToks astOf
  cases hbs : attrsAstOf m with
  | nil =>
    simp only [List.isEmpty_nil, if_true, List.append_nil]
    refine ⟨Sentence.plain hF hT, ?_⟩
    simp only [List.all_append, List.all_cons, vF, vT, punct_valid Sentence.ok_slash, Bool.and_self]
  | cons b bs =>
    rw [hbs] at hA vA
    simp only [List.isEmpty_cons, Bool.false_eq_true, if_false]
    refine ⟨Sentence.withAttrs hF hT hA, ?_⟩
    simp only [List.all_append, List.all_cons, vF, vT, vA, punct_valid Sentence.ok_slash, Bool.and_self]

end SerTok

/-- **The emitted string is a sentence of the grammar and parses to `astOf m`.**
Hypotheses: every element symbol is one of the 118 (any subset, any counts), every mass / radical value
that is present is strictly positive. -/
theorem serialize_parses (m : Graph)
    (hsyms : ∀ s ∈ m.nodes.filterMap (·.attrs.sym), s ∈ elementSyms)
    (hpos : ∀ n ∈ m.nodes, (∀ v, n.attrs.mass = some v → 0 < v) ∧ (∀ v, n.attrs.rad = some v → 0 < v)) :
    ∃ toks, lex (serializedText m) = some toks ∧ parseTucan toks = some (astOf m) ∧
      Sentence toks (astOf m) :=
  have ⟨hS, hv⟩ := SerTok.allToks_sentence m hsyms hpos
  ⟨SerTok.allToks m, SerTok.render_allToks m ▸ lex_render_sentence hS (List.all_eq_true.1 hv),
    (parseTucan_iff _ _).mpr hS, hS⟩

end Tucan
