import TucanProofs.Lemmas.Pipeline
import TucanProofs.Lemmas.FilesPerm
import TucanProofs.Lemmas.MoreExamples
import TucanProofs.Examples
/-!
# C13 — partition classes are label-independent, equitable and respect symmetry

`r` is the refined graph inside `canonicalize_molecule` (the graph handed to bliss): its nodes still
carry the input's labels, so `partOf? r a` is "the class of input atom `a`"; the canonical graph is `r`
renamed.  No oracle is involved: `order` is arbitrary.
-/
namespace Tucan

/-- **Label independence.**  `class(f a)` in the second description equals `class(a)` in the first, and
both refinements take the same number of rounds. -/
theorem C13_label_independent (order order' : Graph → List Nat) (f : Nat → Nat) (g g' c c' r r' : Graph) (k k' : Nat)
    (iso : Iso SameIdent f g g') (hw : g.WF) (hs : g.Simple) (hw' : g'.WF) (hs' : g'.Simple)
    (h : canonicalizeWith g order = .ok (c, r, k)) (h' : canonicalizeWith g' order' = .ok (c', r', k')) :
    k = k' ∧ ∀ a ∈ g.labels, partOf? r' (f a) = partOf? r a := by
  obtain ⟨hk, isoR, _, _, _, _⟩ := refined_equivariant iso hw hs hw' hs' h h'
  exact ⟨hk, fun a ha => partOf?_iso (fun _ _ h => h.part) isoR ((canonicalize_spec hw hs h).reclassed.labels ▸ ha)⟩

/-- **Equitable.**  Atoms in one class share the stored invariant code (for chemistry-level atoms that is
element, mass, radical: `C13_same_class_same_identity`) and see the same multiset of classes among their
neighbours. -/
theorem C13_equitable (order : Graph → List Nat) (g c r : Graph) (k : Nat) (hw : g.WF) (hs : g.Simple)
    (h : canonicalizeWith g order = .ok (c, r, k)) :
    ∀ a ∈ r.labels, ∀ b ∈ r.labels, partOf? r a = partOf? r b →
      keyD r .invariantCode a = keyD r .invariantCode b ∧
      sortKDesc ((r.nbrs a).map (keyD r .partition)) = sortKDesc ((r.nbrs b).map (keyD r .partition)) := by
  have sp := canonicalize_spec hw hs h
  exact fun a ha b hb hab => ⟨sp.respects a ha b hb hab, sp.stable.equitable a ha b hb hab⟩

/-- **Atoms of one class have the same element, isotope mass and radical state**, for inputs whose atoms are
chemistry-level (`g.Chem`: the stored invariant code is the one `graph_from_molecule` computes from atomic
number, mass and radical). -/
theorem C13_same_class_same_identity (order : Graph → List Nat) (g c r : Graph) (k : Nat) (hw : g.WF) (hs : g.Simple)
    (hchem : g.Chem) (h : canonicalizeWith g order = .ok (c, r, k)) :
    ∀ a ∈ g.labels, ∀ b ∈ g.labels, partOf? r a = partOf? r b →
      ∃ x y, g.attrs? a = some x ∧ g.attrs? b = some y ∧ SameIdent x y := by
  have sp := canonicalize_spec hw hs h
  have hgr := sp.reclassed
  intro a ha b hb e
  obtain ⟨x, qa, hx, hrx⟩ := hgr.attrs a ha
  obtain ⟨y, qb, hy, hry⟩ := hgr.attrs b hb
  have := sp.respects.sameIdent (hgr.chem hchem) hrx hry e
  -- `SameIdent` does not look at the class
  exact ⟨x, y, hx, hy, this⟩

/-- **The classes are those of the canonicalized molecule**: every atom has a class after refinement, and the
attribute `partition` of the canonical graph `c` on the renamed atom `σ a` is that class (so every statement of
this file about `partOf? r a` is a statement about `partOf? c (σ a)`). -/
theorem C13_classes_on_canonical_graph (order : Graph → List Nat)
    (hperm : ∀ r : Graph, r.WF → (order r).Perm r.labels)
    (g c r : Graph) (k : Nat) (hw : g.WF) (hs : g.Simple)
    (h : canonicalizeWith g order = .ok (c, r, k)) :
    ∃ σ : Nat → Nat, (∀ a ∈ g.labels, ∀ b ∈ g.labels, σ a = σ b → a = b) ∧ (∀ a ∈ g.labels, σ a ∈ c.labels) ∧
      ∀ a ∈ g.labels, ∃ q : Int, partOf? r a = some q ∧ partOf? c (σ a) = some q := by
  obtain ⟨σ, hσ⟩ := canonicalize_renames hperm hw hs h
  exact ⟨σ, hσ.inj, fun _ => hσ.mem, fun _ => hσ.part⟩

/-- **Stable under further refinement**, literally: running the refinement step
(`partition_molecule_by_attribute(·, PARTITION)`) once more on the refined graph returns, and gives every atom the
class it already has. -/
theorem C13_stable_under_refinement (order : Graph → List Nat) (g c r : Graph) (k : Nat) (hw : g.WF) (hs : g.Simple)
    (h : canonicalizeWith g order = .ok (c, r, k)) :
    ∃ r', partitionMoleculeByAttribute r .partition = .ok r' ∧ r'.labels = r.labels ∧
      ∀ a ∈ r.labels, partOf? r' a = partOf? r a := by
  have sp := canonicalize_spec hw hs h
  obtain ⟨r', hr'⟩ := EqAux.partition_total sp.reclassed.wf sp.dense.1
  have sf := EqAux.stepFacts sp.reclassed.wf sp.reclassed.simple hr'
  exact ⟨r', hr', sf.labels, fun a ha => by rw [sf.part a ha, sp.stable a ha]⟩

/-- **Symmetry.**  Two atoms that are mapped onto each other by a symmetry of the molecule (an
identity-preserving automorphism) are in the same class. -/
theorem C13_automorphism (order : Graph → List Nat) (σ : Nat → Nat) (g c r : Graph) (k : Nat)
    (auto : Iso SameIdent σ g g) (hw : g.WF) (hs : g.Simple)
    (h : canonicalizeWith g order = .ok (c, r, k)) :
    ∀ a ∈ g.labels, partOf? r (σ a) = partOf? r a :=
  (C13_label_independent order order σ g g c c r r k k auto hw hs hw hs h h).2

/-- the number of refinement rounds is bounded by the number of atoms (+1) -/
theorem C13_rounds_bounded (order : Graph → List Nat) (g c r : Graph) (k : Nat) (hw : g.WF) (hs : g.Simple)
    (h : canonicalizeWith g order = .ok (c, r, k)) : k ≤ g.numberOfNodes + 1 :=
  Nat.le_succ_of_le (canonicalize_spec hw hs h).rounds

/-- non-vacuity of the graph hypotheses (for `Iso SameIdent` between two descriptions see the example in C01.lean) -/
example : exGraph.WF ∧ exGraph.Simple := ⟨exGraph_wf, exGraph_simple⟩

/-- **Label independence for graphs of molecules.**  `g`, `g'` are graphs of molecules `m`, `m'` (`IsGraphOf`: what
either reader returns for a file stating the molecule); `m'` is `m` with its atoms listed in another order (`σ`,
inverse `τ`), bonds renumbered accordingly and listed in any order and orientation (`SameMolecule`).  Then atom `i` of
the first file and atom `σ i` of the second — the same atom of the molecule — end up in the same partition class, and
both refinements take the same number of rounds.  No oracle is involved. -/
theorem C13_graphs_of_same_molecule (order order' : Graph → List Nat) (σ τ : Nat → Nat) (m m' : Mol) (hm : m.Ok) (hm' : m'.Ok)
    (same : SameMolecule σ τ m m') (cs cs' : List (Str × Str × Str))
    (hc : cs.length = m.atoms.length) (hc' : cs'.length = m'.atoms.length)
    (g g' : Graph) (hg : IsGraphOf g m cs) (hg' : IsGraphOf g' m' cs') (c c' r r' : Graph) (k k' : Nat)
    (h : canonicalizeWith g order = .ok (c, r, k)) (h' : canonicalizeWith g' order' = .ok (c', r', k')) :
    k = k' ∧ ∀ i < m.atoms.length, partOf? r' (σ i) = partOf? r i := by
  have _ := hm
  have _ := hm'
  have iso := isGraphOf_iso_perm same hc hc' hg hg'
  obtain ⟨hk, hp⟩ := C13_label_independent order order' σ g g' c c' r r' k k' iso hg.wf hg.simple hg'.wf hg'.simple h h'
  exact ⟨hk, fun i hi => hp i (hg.mem_labels.2 hi)⟩

/-- non-vacuity of the statement about graphs of molecules: `FilesExample.mol` and the same molecule listed in reverse order -/
example : MoreExamples.molRev.Ok ∧ SameMolecule MoreExamples.rev MoreExamples.rev FilesExample.mol MoreExamples.molRev :=
  ⟨MoreExamples.molRev_ok, MoreExamples.sameMolecule_rev⟩

end Tucan
