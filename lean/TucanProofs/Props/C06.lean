import TucanProofs.Lemmas.Pipeline
import TucanProofs.Examples
import TucanProofs.Lemmas.Files
import TucanProofs.Lemmas.MoreExamples
import TucanProofs.Lemmas.MolfileText
/-!
# C06 — TUCAN depends only on elements, isotopes, radicals and connectivity

A corollary of C01's theorem: the relation under which the pipeline is invariant (`Iso SameIdent`)
constrains nothing but the identity colour (element, mass, radical) of corresponding atoms and the
neighbour *sets*.  Charges, coordinates, bond types and annotations, any further attribute, the
numbering and every listing order are free.  `C06_files_same_string` carries this down to the text of the files, for both readers.
-/
namespace Tucan

/-- changing only non-identity data (same numbering) leaves the string unchanged -/
theorem C06_identity_only (O : CanonOracle) (g g' : Graph) (s s' : Str)
    (same : Iso SameIdent id g g') (hchem : g.Chem)
    (hw : g.WF) (hs : g.Simple) (hw' : g'.WF) (hs' : g'.Simple)
    (h : tucanOf O.order g = .ok s) (h' : tucanOf O.order g' = .ok s') : s = s' :=
  tucan_invariant O same hchem hw hs hw' hs' h h'

/-- … and so does changing the numeric atom indices on top of that -/
theorem C06_identity_only_renumbered (O : CanonOracle) (f : Nat → Nat) (g g' : Graph) (s s' : Str)
    (same : Iso SameIdent f g g') (hchem : g.Chem)
    (hw : g.WF) (hs : g.Simple) (hw' : g'.WF) (hs' : g'.Simple)
    (h : tucanOf O.order g = .ok s) (h' : tucanOf O.order g' = .ok s') : s = s' :=
  tucan_invariant O same hchem hw hs hw' hs' h h'

/-- `SameIdent` really ignores charge, coordinates, the scratch flag and extra data: any two atoms that
agree on element, symbol, mass, radical and invariant code are related -/
theorem C06_sameIdent_ignores (x : Atom) (chg : Option Int) (cx cy cz : Option Str) (extra : Option Str)
    (e : Option Bool) (p : Option Int) :
    SameIdent x { x with chg := chg, x := cx, y := cy, zc := cz, extra := extra, explored := e, part := p } :=
  ⟨rfl, rfl, rfl, rfl, rfl⟩

/-- **C06 at the level of files.**  Two molfile texts — each V3000 or V2000, with any header and comment
lines, any of the three line-ending styles, any spelling of the table, anything after the connection table —
that are read as molecules `m` and `m'` of the same identity (`SameIdentity`: the same atom positions with the
same element, isotope mass and radical, `D` being hydrogen of mass 2; the same bonded pairs, in any order and
orientation) get the same TUCAN string, whatever the two files say about charges, bond types, bond
annotations, coordinates, other keywords and blocks. `C06_v3000_file_readsAs` / `C06_v2000_file_readsAs`
establish the hypothesis `ReadsAs` for the files of the two formats. -/
theorem C06_files_same_string (O : CanonOracle) (m m' : Mol) (hm : m.Ok) (hm' : m'.Ok) (same : SameIdentity m m')
    (c c' : List (Str × Str × Str)) (hc : c.length = m.atoms.length) (hc' : c'.length = m'.atoms.length)
    (text text' : Str) (r : ReadsAs text m c) (r' : ReadsAs text' m' c') (g g' : Graph) (s s' : Str)
    (hg : graphFromMolfileText text = .ok g) (hg' : graphFromMolfileText text' = .ok g')
    (hs : tucanOf O.order g = .ok s) (hs' : tucanOf O.order g' = .ok s') : s = s' :=
  readsAs_same_string O hm hm' same hc hc' r r' hg hg' hs hs'

/-- the text of a V3000 file (any header, line endings and spelling, indices `1 … n`) whose table states `m` is read as
`m`, the coordinates as the file spells them -/
theorem C06_v3000_file_readsAs (m : Mol) (hm : m.Ok) (coords : List (Str × Str × Str)) (text : Str) (lines : List Str)
    (atoms : List AtomEntry) (bonds : List BondEntry) (ht : IsTextOf text lines) (f : IsV3000File lines atoms bonds)
    (hver : ∀ l3, lines[3]? = some l3 → EndsInWord l3 (cs "V3000"))
    (h : V3States m coords atoms bonds) : ReadsAs text m coords :=
  v3000_text_reads_mol hm ht f hver h

/-- … and so is the text of a V2000 file stating `m`, charges and radicals by charge codes or by property lines that
list every atom with a value once -/
theorem C06_v2000_file_readsAs (m : Mol) (hm : m.Ok) (text : Str) (lines : List Str)
    (atoms : List V2Atom) (bonds : List V2Bond) (bl : List BlockLine) (ht : IsTextOf text lines)
    (f : IsV2000File lines atoms bonds bl) (hver : ∀ l3, lines[3]? = some l3 → EndsInWord l3 (cs "V2000"))
    (h : V2States m atoms bonds bl) : ReadsAs text m (v2Coords atoms) :=
  v2000_text_reads_mol_rep hm ht f hver h.toRep

/-- **The numeric atom indices used in the file.**  A V3000 file whose atom lines carry ANY pairwise distinct
indices, in any order, with bond lines referring to atoms by these indices, is read as a graph *of* the molecule
it states (`IsGraphOf`: node `i` is the `i`-th listed atom, adjacency is the molecule's) — the indices are
gone from the graph on. -/
theorem C06_v3000_file_any_indices (m : Mol) (hm : m.Ok) (idx : List Int) (coords : List (Str × Str × Str))
    (text : Str) (lines : List Str) (atoms : List AtomEntry) (bonds : List BondEntry)
    (ht : IsTextOf text lines) (f : IsV3000File lines atoms bonds)
    (hver : ∀ l3, lines[3]? = some l3 → EndsInWord l3 (cs "V3000"))
    (h : V3StatesIdx m idx coords atoms bonds) :
    ∃ g, graphFromMolfileText text = .ok g ∧ IsGraphOf g m coords :=
  v3000_text_reads_graph_of hm ht f hver h

/-- every text that `ReadsAs` a molecule (V3000 with indices `1…n`, or V2000) is read as a graph of it -/
theorem C06_readsAs_graph_of (m : Mol) (hm : m.Ok) (c : List (Str × Str × Str)) (hc : c.length = m.atoms.length)
    (text : Str) (r : ReadsAs text m c) : ∃ g, graphFromMolfileText text = .ok g ∧ IsGraphOf g m c :=
  r.graph_of hm hc

/-- **… and graphs of molecules of the same identity get the same string**, whichever files (with whichever
indices, charges, bond types, coordinates, headers, line endings) they were read from. -/
theorem C06_graphs_of_same_identity (O : CanonOracle) (m m' : Mol) (hm : m.Ok) (same : SameIdentity m m')
    (c c' : List (Str × Str × Str)) (hc : c.length = m.atoms.length) (hc' : c'.length = m'.atoms.length)
    (g g' : Graph) (hg : IsGraphOf g m c) (hg' : IsGraphOf g' m' c') (s s' : Str)
    (hs : tucanOf O.order g = .ok s) (hs' : tucanOf O.order g' = .ok s') : s = s' :=
  isGraphOf_same_string O hm same hc hc' hg hg' hs hs'

/-- the line-ending style is invisible to the readers -/
theorem C06_line_endings (eol : Str) (he : IsEol eol) (lines : List Str) (hnb : ∀ l ∈ lines, WR.NoBreak l) :
    splitLines (fileText eol lines) = lines ∧
    ((∀ l, lines.getLast? = some l → l ≠ []) → splitLines (fileTextNoTrail eol lines) = lines) :=
  ⟨splitLines_fileText eol he lines hnb, fun h => splitLines_fileTextNoTrail eol he lines hnb h⟩

/-- **… also when the terminators are mixed within one file**: each line may end in its own `\n`, `\r\n` or
`\r`, the last one in none (`MixedOk`); the text splits into the same lines, hence the reader returns on it exactly
what it returns on the same lines written with `\n` throughout — every file-level theorem carries over.  The one
interaction: a line ended by `\r` directly followed by an empty line ended by `\n` spells `\r\n`, one terminator;
such a pair is excluded (`NoCrLfMerge`), and it has to be: Python reads `"a\r\n"` as the single line `a`. -/
theorem C06_mixed_line_endings (ls : List (Str × Str)) (hnb : ∀ p ∈ ls, WR.NoBreak p.1)
    (hok : MixedOk ls) (hm : NoCrLfMerge ls) :
    splitLines (fileTextMixed ls) = ls.map (·.1) ∧
    graphFromMolfileText (fileTextMixed ls) = graphFromMolfileText (fileText ['\n'] (ls.map (·.1))) :=
  ⟨splitLines_fileTextMixed ls hnb hok hm, graphFromMolfileText_mixed ls hnb hok hm⟩

/-- non-vacuity: `a\r\nb\rc\n\nd` — four terminators of three kinds, an empty line, no terminator at the end -/
example :
    MixedOk [(['a'], ['\r', '\n']), (['b'], ['\r']), (['c'], ['\n']), ([], ['\n']), (['d'], [])] ∧
    NoCrLfMerge [(['a'], ['\r', '\n']), (['b'], ['\r']), (['c'], ['\n']), ([], ['\n']), (['d'], [])] ∧
    splitLines (fileTextMixed [(['a'], ['\r', '\n']), (['b'], ['\r']), (['c'], ['\n']), ([], ['\n']), (['d'], [])])
      = [['a'], ['b'], ['c'], [], ['d']] := mixed_example

example : exGraph.WF ∧ exGraph.Simple := ⟨exGraph_wf, exGraph_simple⟩

/-- non-vacuity of `C06_v3000_file_any_indices`: atom lines numbered 7, 3, 12 -/
example : V3StatesIdx FilesExample.mol [7, 3, 12] FilesExample.coords3 MoreExamples.atomsIdx MoreExamples.bondsIdx :=
  MoreExamples.v3StatesIdx

end Tucan
