import TucanProofs.Lemmas.V2000
import TucanProofs.Lemmas.MolfileText
/-!
# The V2000 reader on a whole connection table

An abstract V2000 file (`V2Atom`, `V2Bond`, block lines) is laid out in the fixed columns of the CTfile specification,
and `graphAttributesV2000_spec` says what the reader returns on it.  `RendersAll` relates block lines to text through
the reader's own `parseAtomValueAssignments`; at the end the text is produced (`PropText`, laid out by `propLine`), and
such a block satisfies `RendersAll` for the block lines it states.  `IsV2000File lines atoms bonds bl` bundles the
hypotheses of `graphAttributesV2000_spec` (`reads_entries`; `of_propTexts` for a concrete file).
-/
namespace Tucan

/-- what the reader keeps of a coordinate field (`_to_float`: a blank field is 0) -/
def v2Coord (f : Str) : Str := if (stripSp f).isEmpty then ['0'] else strip f

structure V2Atom where
  fx : Str
  fy : Str
  fz : Str
  sym : Str           -- as written: an element symbol, `D` or `T`
  code : Int          -- atom-block charge code
  z : Int             -- the atomic number of the denoted element
  tail : Str          -- the rest of the line (further fixed-width fields), any text

structure V2Atom.Ok (a : V2Atom) : Prop where
  fx : a.fx.length = 10 ∧ ((stripSp a.fx).isEmpty ∨ pyFloatOk a.fx = true)
  fy : a.fy.length = 10 ∧ ((stripSp a.fy).isEmpty ∨ pyFloatOk a.fy = true)
  fz : a.fz.length = 10 ∧ ((stripSp a.fz).isEmpty ∨ pyFloatOk a.fz = true)
  sym : a.sym.length ≤ 3 ∧ a.sym ≠ [] ∧ ' ' ∉ a.sym
  z : atomicNumberOf (detectHydrogenIsotopes a.sym).1 = .ok a.z
  code : (intRepr a.code).length ≤ 3

instance V2Atom.decOk (a : V2Atom) : Decidable a.Ok :=
  decidable_of_iff (_ ∧ _ ∧ _ ∧ _ ∧ _ ∧ _)
    ⟨fun ⟨x, y, z, s, n, c⟩ => ⟨x, y, z, s, n, c⟩, fun ⟨x, y, z, s, n, c⟩ => ⟨x, y, z, s, n, c⟩⟩

/-- `xxxxx.xxxxyyyyy.yyyyzzzzz.zzzz aaaddcccsss…`; the mass-difference field `dd` is ` 0` (C08's scope: isotopes are stated
by `M  ISO` lines or by `D` / `T`) -/
def V2Atom.line (a : V2Atom) : Str :=
  a.fx ++ a.fy ++ a.fz ++ ' ' :: (a.sym ++ List.replicate (3 - a.sym.length) ' ') ++ cs " 0" ++ pad3 a.code ++ a.tail

/-- the record the atom block yields for one atom line (before the property block is applied) -/
def V2Atom.record (a : V2Atom) : Atom :=
  { sym := some (detectHydrogenIsotopes a.sym).1, z := some a.z, part := some 0,
    x := some (v2Coord a.fx), y := some (v2Coord a.fy), zc := some (v2Coord a.fz),
    chg := (chargeCode a.code).1, rad := (chargeCode a.code).2,
    mass := if (detectHydrogenIsotopes a.sym).2 = 0 then none else some (detectHydrogenIsotopes a.sym).2 }

structure V2Bond where
  a : Int            -- 1-based atom numbers
  b : Int
  t : Int            -- bond type
  tail : Str

def V2Bond.line (b : V2Bond) : Str := pad3 b.a ++ pad3 b.b ++ pad3 b.t ++ b.tail

/-- a line that the property-block scan skips: word for word `BlockLine.Renders atoms .other l` and
`PropText.Fits atoms (.other l)`, for which it is handed in as it stands -/
def SkippedLine (l : Str) : Prop :=
  startsWith l (cs "M  CHG") = false ∧ startsWith l (cs "M  RAD") = false ∧
  startsWith l (cs "M  ISO") = false ∧ l ≠ cs "M  END"

instance (l : Str) : Decidable (SkippedLine l) := inferInstanceAs (Decidable (_ ∧ _ ∧ _ ∧ _))

namespace V2F
open V2000

theorem toFloat_field (f : Str) (h : (stripSp f).isEmpty ∨ pyFloatOk f = true) :
    toFloatV2000 f = .ok (v2Coord f) := by
  unfold toFloatV2000 v2Coord
  split
  · rfl
  · next he => rw [pyFloat, if_pos (h.resolve_left he)]

theorem atomLine_eval (a : V2Atom) (h : a.Ok) : parseAtomLineV2000 a.line = .ok a.record := by
  obtain ⟨⟨lx, hx⟩, ⟨ly, hy⟩, ⟨lz, hz⟩, ⟨ls, -, hsp⟩, hzz, hc⟩ := h
  -- the symbol field, three columns wide
  obtain ⟨S, hS⟩ : ∃ S, S = a.sym ++ List.replicate (3 - a.sym.length) ' ' := ⟨_, rfl⟩
  have lS : S.length = 3 := by rw [hS, List.length_append, List.length_replicate, Nat.add_sub_cancel' ls]
  have hsym : stripSp S = a.sym := hS ▸ stripSp_append_replicate a.sym _ hsp
  let cols : List Str := [a.fx, a.fy, a.fz, [' '], S, cs " 0", pad3 a.code, a.tail]
  have hline : a.line = cols.flatten := by
    simp only [V2Atom.line, cols, hS, List.flatten_cons, List.flatten_nil, List.append_assoc, List.append_nil,
      List.cons_append, List.nil_append]
  have l0 : (cs " 0").length = 2 := rfl
  have s1 := slice_col cols 0 a.fx rfl 0 10 rfl (by rw [lx])
  have s2 := slice_col cols 1 a.fy rfl 10 20 (by simp [cols, lx]) (by rw [ly])
  have s3 := slice_col cols 2 a.fz rfl 20 30 (by simp [cols, lx, ly]) (by rw [lz])
  have s4 := slice_col cols 4 S rfl 31 34 (by simp [cols, lx, ly, lz]) (by rw [lS])
  have s5 := toIntV2000_col cols 6 a.code rfl hc 36 39 (by simp [cols, lx, ly, lz, lS, l0]) rfl
  unfold parseAtomLineV2000 V2Atom.record
  simp only [hline, s1, s2, s3, s4, s5, hsym, toFloat_field _ hx, toFloat_field _ hy, toFloat_field _ hz, hzz,
    PyM.ok_bind, PyM.pure_eq_ok, beq_iff_eq]

abbrev atomDict (atoms : List V2Atom) : List (Int × Atom) :=
  atoms.zipIdx.map fun (a, i) => ((i : Int), a.record)

theorem atomBlock_eval (atoms : List V2Atom) (h : ∀ a ∈ atoms, a.Ok) :
    ((atoms.map V2Atom.line).zipIdx.mapM fun (l, i) => do
      let a ← parseAtomLineV2000 l
      pure ((i : Int), a)) = .ok (atomDict atoms) := by
  rw [List.zipIdx_map, List.mapM_map]
  refine PyM.mapM_eq_ok_map (l := atoms.zipIdx) (fun ((a, i) : V2Atom × Nat) => ((i : Int), a.record)) ?_
  rintro ⟨a, i⟩ hm
  simp only [Function.comp, Prod.map, id, atomLine_eval a (h a (List.fst_mem_of_mem_zipIdx hm)), PyM.ok_bind,
    PyM.pure_eq_ok]

theorem atomDict_isSome (atoms : List V2Atom) {k : Int} (h1 : 1 ≤ k) (h2 : k ≤ atoms.length) :
    (alookup (k - 1) (atomDict atoms)).isSome = true := by
  obtain ⟨i, hi⟩ := Int.eq_ofNat_of_zero_le (Int.sub_nonneg.2 h1)
  have hlt : i < (atomDict atoms).length := by
    rw [List.length_map, List.length_zipIdx]
    exact Int.ofNat_lt.1 (hi ▸ Int.sub_one_lt_iff.2 h2)
  rw [hi, alookup_of_keys_range (keys_zipIdx_map _ _ atoms), List.getElem?_eq_getElem hlt]
  rfl

/-- the start of the counts line and of a bond line -/
theorem threeFields (a b c : Int) (ha : (intRepr a).length ≤ 3) (hb : (intRepr b).length ≤ 3)
    (hc : (intRepr c).length ≤ 3) (tail : Str) :
    toIntV2000 (slice (pad3 a ++ pad3 b ++ pad3 c ++ tail) 0 3) = .ok a ∧
    toIntV2000 (slice (pad3 a ++ pad3 b ++ pad3 c ++ tail) 3 6) = .ok b ∧
    toIntV2000 (slice (pad3 a ++ pad3 b ++ pad3 c ++ tail) 6 9) = .ok c := by
  let cols : List Str := [pad3 a, pad3 b, pad3 c, tail]
  have hline : pad3 a ++ pad3 b ++ pad3 c ++ tail = cols.flatten := by simp [cols]
  have la := pad3_length _ ha
  have lb := pad3_length _ hb
  rw [hline]
  exact ⟨toIntV2000_col cols 0 a rfl ha 0 3 rfl rfl, toIntV2000_col cols 1 b rfl hb 3 6 (by simp [cols, la]) rfl,
    toIntV2000_col cols 2 c rfl hc 6 9 (by simp [cols, la, lb]) rfl⟩

theorem bondLine_eval (b : V2Bond) (atoms0 : List (Int × Atom))
    (ha : (intRepr b.a).length ≤ 3) (hb : (intRepr b.b).length ≤ 3) (ht : (intRepr b.t).length ≤ 3)
    (ea : (alookup (b.a - 1) atoms0).isSome = true) (eb : (alookup (b.b - 1) atoms0).isSome = true) :
    parseBondLineV2000 b.line atoms0 = .ok ((b.a - 1, b.b - 1), { btype := some b.t }) := by
  obtain ⟨s1, s2, s3⟩ := threeFields b.a b.b b.t ha hb ht b.tail
  simp only [parseBondLineV2000, V2Bond.line, s1, s2, s3, PyM.ok_bind, Option.isNone_eq_false_iff.2 ea,
    Option.isNone_eq_false_iff.2 eb, Bool.false_eq_true, if_false]
  rfl

/-- the scan for the property block starts inside the bond / list lines: they count as unrelated lines -/
theorem rendersAll_skip (atoms0 : List (Int × Atom)) (bl : List BlockLine) (lines : List Str)
    (h : RendersAll atoms0 bl lines) : ∀ (sk : List Str), (∀ l ∈ sk, SkippedLine l) →
    RendersAll atoms0 (List.replicate sk.length .other ++ bl) (sk ++ lines)
  | [], _ => h
  | l :: sk, hs =>
    RendersAll.cons (hs l (by simp)) (rendersAll_skip atoms0 bl lines h sk (fun x hx => hs x (by simp [hx])))

theorem attrBlock_eval (atoms0 : List (Int × Atom)) (bl : List BlockLine) (sk blockLines tail : List Str)
    (hs : ∀ l ∈ sk, SkippedLine l) (h : RendersAll atoms0 bl blockLines) :
    parseAttributeBlock (sk ++ blockLines ++ cs "M  END" :: tail) atoms0 = .ok (applyBlock bl atoms0) := by
  rw [parseAttributeBlock_spec atoms0 _ _ tail (rendersAll_skip atoms0 bl blockLines h sk hs)]
  -- the skipped lines state nothing
  have e1 : allAssignments (List.replicate sk.length .other ++ bl) = allAssignments bl := by
    simp [allAssignments]
  have e2 : hasChgOrRad (List.replicate sk.length .other ++ bl) = hasChgOrRad bl := by
    simp [hasChgOrRad]
  simp only [applyBlock, e1, e2]

theorem graphAttributesV2000_eq (lines : List Str) : graphAttributesV2000 lines =
    getIdx lines 3 >>= fun l3 => toIntV2000 (slice l3 0 3) >>= fun atomCount =>
    toIntV2000 (slice l3 3 6) >>= fun bondCount => toIntV2000 (slice l3 6 9) >>= fun listsCount =>
    ((sliceInt lines 4 (4 + atomCount)).zipIdx.mapM fun (l, i) => do
      let a ← parseAtomLineV2000 l
      pure ((i : Int), a)) >>= fun atoms0 =>
    ((sliceInt lines (4 + atomCount) (4 + atomCount + bondCount)).mapM fun l => parseBondLineV2000 l atoms0)
      >>= fun bondList =>
    parseAttributeBlock (sliceInt lines (4 + atomCount + listsCount) lines.length) atoms0 >>= fun atoms =>
    pure (atoms, bondList.foldl (fun d (k, b) => ainsert k b d) []) := rfl

/-- where the reader looks in the line list: the counts line, the atom lines, the bond lines, and everything from
line `4 + atoms + lists` on (the bond count plays no part in where the property block is looked for) -/
theorem windows (h0 h1 h2 c : Str) (A B Ls R : List Str) :
    let L := h0 :: h1 :: h2 :: c :: (A ++ B ++ Ls ++ R)
    getIdx L 3 = .ok c ∧
    sliceInt L 4 (4 + (A.length : Int)) = A ∧
    sliceInt L (4 + (A.length : Int)) (4 + (A.length : Int) + (B.length : Int)) = B ∧
    sliceInt L (4 + (A.length : Int) + (Ls.length : Int)) L.length = (B ++ Ls).drop Ls.length ++ R := by
  intro L
  let blocks : List (List Str) := [[h0, h1, h2, c], A, B, Ls ++ R]
  have hL : L = blocks.flatten := by simp [L, blocks]
  refine ⟨rfl, ?_, ?_, ?_⟩
  · rw [hL]
    exact sliceInt_col blocks 1 A rfl _ _ (by simp [blocks]) rfl
  · rw [hL]
    exact sliceInt_col blocks 2 B rfl _ _ (by simp +arith [blocks]) rfl
  · have hL' : L = ([h0, h1, h2, c] ++ A) ++ ((B ++ Ls) ++ R) := by simp [L]
    have ha : (4 : Int) + A.length + Ls.length = ((([h0, h1, h2, c] ++ A).length + Ls.length : Nat) : Int) := by
      rw [List.length_append, Int.natCast_add, Int.natCast_add]
      rfl
    rw [ha, sliceInt_length, hL', List.drop_length_add_append, List.drop_append_of_le_length (by simp)]

end V2F

/-- **The V2000 connection table** (in words: `C08_connection_table`).  `hskipB`, `hskipL`: the scan for the property
block starts at line `4 + atoms + lists` (`V2F.windows`), that is inside the bond and list lines, which therefore must
not look like property lines. -/
theorem graphAttributesV2000_spec (h0 h1 h2 countsTail : Str) (atoms : List V2Atom) (bonds : List V2Bond)
    (lists : List Str) (bl : List BlockLine) (blockLines : List Str) (tail : List Str)
    (hatoms : ∀ a ∈ atoms, a.Ok)
    (hna : (intRepr (atoms.length : Int)).length ≤ 3) (hnb : (intRepr (bonds.length : Int)).length ≤ 3)
    (hnl : (intRepr (lists.length : Int)).length ≤ 3)
    (hbonds : ∀ b ∈ bonds, (intRepr b.a).length ≤ 3 ∧ (intRepr b.b).length ≤ 3 ∧ (intRepr b.t).length ≤ 3 ∧
      1 ≤ b.a ∧ b.a ≤ atoms.length ∧ 1 ≤ b.b ∧ b.b ≤ atoms.length)
    (hskipB : ∀ b ∈ bonds, SkippedLine b.line) (hskipL : ∀ l ∈ lists, SkippedLine l)
    (hblock : RendersAll (atoms.zipIdx.map fun (a, i) => ((i : Int), a.record)) bl blockLines) :
    graphAttributesV2000
        (h0 :: h1 :: h2 :: (pad3 atoms.length ++ pad3 bonds.length ++ pad3 lists.length ++ countsTail) ::
          (atoms.map V2Atom.line ++ bonds.map V2Bond.line ++ lists ++ blockLines ++ cs "M  END" :: tail)) =
      .ok (applyBlock bl (atoms.zipIdx.map fun (a, i) => ((i : Int), a.record)),
           bonds.foldl (fun d b => ainsert (b.a - 1, b.b - 1) ({ btype := some b.t } : Bond) d) []) := by
  have w := V2F.windows h0 h1 h2 (pad3 atoms.length ++ pad3 bonds.length ++ pad3 lists.length ++ countsTail)
    (atoms.map V2Atom.line) (bonds.map V2Bond.line) lists (blockLines ++ cs "M  END" :: tail)
  simp only [List.length_map] at w
  obtain ⟨w0, w1, w2, w3⟩ := w
  obtain ⟨c1, c2, c3⟩ := V2F.threeFields _ _ _ hna hnb hnl countsTail
  have hb : ((bonds.map V2Bond.line).mapM fun l => parseBondLineV2000 l (V2F.atomDict atoms)) =
      .ok (bonds.map fun b => ((b.a - 1, b.b - 1), ({ btype := some b.t } : Bond))) := by
    rw [List.mapM_map]
    refine PyM.mapM_eq_ok_map (fun b : V2Bond => ((b.a - 1, b.b - 1), ({ btype := some b.t } : Bond))) ?_
    intro b hm
    obtain ⟨ha, hb, ht, a1, a2, b1, b2⟩ := hbonds b hm
    exact V2F.bondLine_eval b _ ha hb ht (V2F.atomDict_isSome atoms a1 a2) (V2F.atomDict_isSome atoms b1 b2)
  have hsk : ∀ l ∈ (bonds.map V2Bond.line ++ lists).drop lists.length, SkippedLine l := by
    intro l hl
    rcases List.mem_append.1 (List.mem_of_mem_drop hl) with h | h
    · obtain ⟨b, hb, rfl⟩ := List.mem_map.1 h
      exact hskipB b hb
    · exact hskipL l h
  have ha := V2F.attrBlock_eval (V2F.atomDict atoms) bl _ blockLines tail hsk hblock
  rw [List.append_assoc _ blockLines, V2F.graphAttributesV2000_eq]
  rw [List.append_assoc] at ha
  rw [w0, PyM.ok_bind, c1, PyM.ok_bind, c2, PyM.ok_bind, c3, PyM.ok_bind, w1, V2F.atomBlock_eval atoms hatoms, PyM.ok_bind,
    w2, hb, PyM.ok_bind, w3, ha, PyM.ok_bind, List.foldl_map]
  rfl

/-- a V2000 connection table: header, counts line, fixed-column atom and bond lines, atom lists, a property
block, `M  END`, anything after it -/
def IsV2000File (lines : List Str) (atoms : List V2Atom) (bonds : List V2Bond) (bl : List BlockLine) : Prop :=
  ∃ (h0 h1 h2 countsTail : Str) (lists blockLines tail : List Str),
    lines = h0 :: h1 :: h2 :: (pad3 atoms.length ++ pad3 bonds.length ++ pad3 lists.length ++ countsTail) ::
          (atoms.map V2Atom.line ++ bonds.map V2Bond.line ++ lists ++ blockLines ++ cs "M  END" :: tail) ∧
    (∀ a ∈ atoms, a.Ok) ∧
    (intRepr (atoms.length : Int)).length ≤ 3 ∧ (intRepr (bonds.length : Int)).length ≤ 3 ∧
    (intRepr (lists.length : Int)).length ≤ 3 ∧
    (∀ b ∈ bonds, (intRepr b.a).length ≤ 3 ∧ (intRepr b.b).length ≤ 3 ∧ (intRepr b.t).length ≤ 3 ∧
      1 ≤ b.a ∧ b.a ≤ atoms.length ∧ 1 ≤ b.b ∧ b.b ≤ atoms.length) ∧
    (∀ b ∈ bonds, SkippedLine b.line) ∧ (∀ l ∈ lists, SkippedLine l) ∧
    RendersAll (atoms.zipIdx.map fun (a, i) => ((i : Int), a.record)) bl blockLines

theorem IsV2000File.reads_entries {lines : List Str} {atoms : List V2Atom} {bonds : List V2Bond} {bl : List BlockLine}
    (f : IsV2000File lines atoms bonds bl) {B : List ((Int × Int) × Bond)}
    (hB : bonds.map (fun b => ((b.a - 1, b.b - 1), ({ btype := some b.t } : Bond))) = B) (hBk : (B.map (·.1)).Nodup) :
    graphAttributesV2000 lines = .ok (applyBlock bl (atoms.zipIdx.map fun (a, i) => ((i : Int), a.record)), B) := by
  obtain ⟨h0, h1, h2, countsTail, lists, blockLines, tail, rfl, hA, hna, hnb, hnl, hBd, hsB, hsL, hbl⟩ := f
  rw [graphAttributesV2000_spec h0 h1 h2 countsTail atoms bonds lists bl blockLines tail hA hna hnb hnl hBd hsB hsL hbl,
    foldl_ainsert_eq (fun b : V2Bond => (b.a - 1, b.b - 1)) (fun b => ({ btype := some b.t } : Bond)) bonds [] hB hBk]

theorem IsV2000File.atomsOk {lines : List Str} {atoms : List V2Atom} {bonds : List V2Bond} {bl : List BlockLine}
    (f : IsV2000File lines atoms bonds bl) : ∀ a ∈ atoms, a.Ok := by
  obtain ⟨_, _, _, _, _, _, _, _, hA, _⟩ := f
  exact hA

theorem IsV2000File.text_reads {text : Str} {lines : List Str} {atoms : List V2Atom} {bonds : List V2Bond}
    {bl : List BlockLine} (f : IsV2000File lines atoms bonds bl) (ht : IsTextOf text lines)
    (hver : ∀ l3, lines[3]? = some l3 → EndsInWord l3 (cs "V2000")) :
    graphFromMolfileText text =
      (graphAttributesV2000 lines >>= fun p => graphFromMolecule p.1 p.2 >>= fun q => pure q.1) := by
  obtain ⟨h0, h1, h2, ct, lists, blockLines, tail, rfl, _⟩ := f
  exact (graphFromMolfileText_of_lines ht.splitLines rfl).2 (hver _ rfl)

/-- one line of a property block as a writer states it (atom numbers 1-based, as in the file) -/
inductive PropText
  | chg (entries : List (Int × Int))
  | rad (entries : List (Int × Int))
  | iso (entries : List (Int × Int))
  | other (line : Str)

def PropText.line : PropText → Str
  | .chg es => propLine (cs "CHG") es
  | .rad es => propLine (cs "RAD") es
  | .iso es => propLine (cs "ISO") es
  | .other l => l

/-- what the line states: 0-based atom index and value, under the key -/
def PropText.blockLine : PropText → BlockLine
  | .chg es => .assign .chg (es.map fun e => (e.1 - 1, e.2))
  | .rad es => .assign .rad (es.map fun e => (e.1 - 1, e.2))
  | .iso es => .assign .mass (es.map fun e => (e.1 - 1, e.2))
  | .other _ => .other

/-- the entries fit the three-character columns and name atoms of the table -/
def EntriesFit (atoms : List (Int × Atom)) (es : List (Int × Int)) : Prop :=
  (intRepr (es.length : Int)).length ≤ 3 ∧
  (∀ e ∈ es, (intRepr e.1).length ≤ 3 ∧ (intRepr e.2).length ≤ 3) ∧
  ∀ e ∈ es, (alookup (e.1 - 1) atoms).isSome

/-- the line can stand in a property block over the atom table `atoms` -/
def PropText.Fits (atoms : List (Int × Atom)) : PropText → Prop
  | .chg es => EntriesFit atoms es
  | .rad es => EntriesFit atoms es
  | .iso es => EntriesFit atoms es
  | .other l => startsWith l (cs "M  CHG") = false ∧ startsWith l (cs "M  RAD") = false ∧
      startsWith l (cs "M  ISO") = false ∧ l ≠ cs "M  END"

instance (atoms : List (Int × Atom)) (es : List (Int × Int)) : Decidable (EntriesFit atoms es) := by
  unfold EntriesFit; infer_instance

instance (atoms : List (Int × Atom)) : (p : PropText) → Decidable (p.Fits atoms)
  | .chg es | .rad es | .iso es => inferInstanceAs (Decidable (EntriesFit atoms es))
  | .other _ => inferInstanceAs (Decidable (_ ∧ _ ∧ _ ∧ _))

namespace PBT

/-- a `propLine` starts with `M  ` and its own tag … -/
theorem startsWith_own {tag p : Str} (es : List (Int × Int)) (hp : p = cs "M  " ++ tag) :
    startsWith (propLine tag es) p = true := by
  rw [hp, propLine, List.append_assoc (cs "M  " ++ tag)]
  exact List.isPrefixOf_iff_prefix.2 (List.prefix_append _ _)

/-- … and not with `M  ` and another tag -/
theorem startsWith_other {tag tag' p : Str} (es : List (Int × Int)) (hp : p = cs "M  " ++ tag')
    (h : tag'.length = 3 ∧ tag.length = 3) (hne : tag' ≠ tag) : startsWith (propLine tag es) p = false := by
  rw [hp, propLine, List.append_assoc (cs "M  " ++ tag), startsWith,
    List.isPrefixOf_append_of_length_eq _ _ _ (by rw [List.length_append, List.length_append, h.1, h.2])]
  exact beq_false_of_ne fun e => hne (List.append_cancel_left e)

/-- the prefixes the scan tests are `M  ` and a tag; the tags have three characters and differ (one evaluation for all
that is asked of the literals) -/
theorem tags :
    (cs "M  CHG" = cs "M  " ++ cs "CHG" ∧ cs "M  RAD" = cs "M  " ++ cs "RAD" ∧ cs "M  ISO" = cs "M  " ++ cs "ISO") ∧
    ((cs "CHG").length = 3 ∧ (cs "RAD").length = 3 ∧ (cs "ISO").length = 3) ∧
    cs "CHG" ≠ cs "RAD" ∧ cs "CHG" ≠ cs "ISO" ∧ cs "RAD" ≠ cs "ISO" := by
  simp (disch := rfl) only [cs, toList_lit]
  decide +kernel

theorem renders_of_fits (atoms : List (Int × Atom)) (p : PropText) (h : p.Fits atoms) :
    BlockLine.Renders atoms p.blockLine p.line := by
  have hp : ∀ tag : Str, tag.length = 3 → ∀ es, EntriesFit atoms es →
      parseAtomValueAssignments (propLine tag es) atoms = .ok (es.map fun e => (e.1 - 1, e.2)) :=
    fun tag ht es h => parseAtomValueAssignments_propLine tag ht es h.1 h.2.1 atoms h.2.2
  obtain ⟨⟨pc, pr, pi⟩, ⟨lc, lr, li⟩, ncr, nci, nri⟩ := tags
  cases p with
  | chg es => exact ⟨startsWith_own es pc, hp _ lc es h⟩
  | rad es => exact ⟨⟨startsWith_own es pr, startsWith_other es pc ⟨lc, lr⟩ ncr⟩, hp _ lr es h⟩
  | iso es =>
    exact ⟨⟨startsWith_own es pi, startsWith_other es pc ⟨lc, li⟩ nci, startsWith_other es pr ⟨lr, li⟩ nri⟩,
      hp _ li es h⟩
  | other l => exact h

end PBT

/-- **A block written with `propLine` is read as what it states.** -/
theorem rendersAll_of_propTexts (atoms : List (Int × Atom)) (ps : List PropText)
    (hfit : ∀ p ∈ ps, p.Fits atoms) :
    RendersAll atoms (ps.map PropText.blockLine) (ps.map PropText.line) := by
  induction ps with
  | nil => exact .nil
  | cons p ps ih =>
    exact .cons (PBT.renders_of_fits atoms p (hfit p (by simp)))
      (ih (fun q hq => hfit q (by simp [hq])))

theorem IsV2000File.of_propTexts {lines : List Str} {atoms : List V2Atom} {bonds : List V2Bond}
    (h0 h1 h2 countsTail : Str) (lists : List Str) (ps : List PropText) (tail : List Str)
    (h : lines = h0 :: h1 :: h2 ::
          (pad3 atoms.length ++ pad3 bonds.length ++ pad3 lists.length ++ countsTail) ::
          (atoms.map V2Atom.line ++ bonds.map V2Bond.line ++ lists ++ ps.map PropText.line ++ cs "M  END" :: tail) ∧
      (∀ a ∈ atoms, a.Ok) ∧
      (intRepr (atoms.length : Int)).length ≤ 3 ∧ (intRepr (bonds.length : Int)).length ≤ 3 ∧
      (intRepr (lists.length : Int)).length ≤ 3 ∧
      (∀ b ∈ bonds, (intRepr b.a).length ≤ 3 ∧ (intRepr b.b).length ≤ 3 ∧ (intRepr b.t).length ≤ 3 ∧
        1 ≤ b.a ∧ b.a ≤ atoms.length ∧ 1 ≤ b.b ∧ b.b ≤ atoms.length) ∧
      (∀ b ∈ bonds, SkippedLine b.line) ∧ (∀ l ∈ lists, SkippedLine l) ∧
      ∀ p ∈ ps, p.Fits (atoms.zipIdx.map fun (a, i) => ((i : Int), a.record))) :
    IsV2000File lines atoms bonds (ps.map PropText.blockLine) := by
  obtain ⟨hl, hA, hna, hnb, hnl, hB, hsB, hsL, hps⟩ := h
  exact ⟨h0, h1, h2, countsTail, lists, _, tail, hl, hA, hna, hnb, hnl, hB, hsB, hsL, rendersAll_of_propTexts _ ps hps⟩

/-- non-vacuity: a three-line block over a two-atom table -/
theorem propTexts_example :
    ∀ p ∈ [PropText.chg [(2, -1)], PropText.other (cs "M  STY  1   1 SUP"), PropText.iso [(1, 13), (2, 2)]],
      p.Fits [((0 : Int), ({} : Atom)), ((1 : Int), ({} : Atom))] := by
  decide +kernel

end Tucan
