import TucanProofs.Lemmas.AcceptIff
import TucanProofs.Lemmas.Domain
/-!
# The graph an accepted string denotes, read off its syntax tree

`graphFromTucan_accepts_iff` says which strings are accepted, `toGraph_spec` what graph a listener state becomes.  Here
the graph returned for an accepted string is described by the syntax tree alone: how many atoms, which element at which
index, which pairs are bonded, which mass and radical on which atom, with no mention of the listener state.
-/
namespace Tucan

/-- the formula written out: every symbol as often as its count says -/
def Ast.expansion (ast : Ast) : List Str :=
  ast.formula.flatMap fun p => List.replicate (Acc.itemCount p) p.1

/-- the element symbols in the order in which the parser numbers the atoms: `to_graph` sorts the atoms of the formula by
atomic number, stably -/
def Ast.sortedSymbols (ast : Ast) : List Str :=
  ast.expansion.mergeSort fun a b => decide ((elementZ a).getD 0 ≤ (elementZ b).getD 0)

/-- `List.mergeSort` does not evaluate in the kernel; these three facts about a concrete `l` do -/
theorem Ast.sortedSymbols_eq {a : Ast} {l : List Str} (perm : l.Perm a.expansion)
    (sorted : l.Pairwise fun x y => (elementZ x).getD 0 ≤ (elementZ y).getD 0)
    (anti : ∀ x ∈ l, ∀ y ∈ l, (elementZ x).getD 0 = (elementZ y).getD 0 → x = y) : a.sortedSymbols = l :=
  List.mergeSort_key_eq (fun x => (elementZ x).getD 0) perm sorted
    fun x hx y hy h h' => anti x hx y hy (Nat.le_antisymm h h')

theorem Ast.expansion_length (ast : Ast) : ast.expansion.length = ast.atomCount := by
  simp [Ast.expansion, List.length_flatMap, Ast.atomCount, Acc.itemCount]

theorem Ast.sortedSymbols_length (ast : Ast) : ast.sortedSymbols.length = ast.atomCount := by
  unfold Ast.sortedSymbols
  rw [List.length_mergeSort, Ast.expansion_length]

theorem Ast.sortedSymbols_perm (ast : Ast) : ast.sortedSymbols.Perm ast.expansion :=
  List.mergeSort_perm ast.expansion _

theorem Ast.sortedSymbols_pairwise (ast : Ast) :
    ast.sortedSymbols.Pairwise (fun a b => (elementZ a).getD 0 ≤ (elementZ b).getD 0) :=
  List.pairwise_mergeSort_key (fun a => (elementZ a).getD 0) ast.expansion

namespace AstDen
open Tucan.Acc

theorem sorted_atoms (ast : Ast) : sortAtomsByZ ast.state.atoms = ast.sortedSymbols.map formulaAtom := by
  have hmap : ast.state.atoms = ast.expansion.map formulaAtom := by
    simp only [Ast.expansion, List.map_flatMap, List.map_replicate]
    rfl
  unfold sortAtomsByZ Ast.sortedSymbols
  rw [hmap]
  refine (List.map_mergeSort fun a _ b _ => ?_).symm
  have hz : ∀ s, (formulaAtom s).z.getD 0 = (((elementZ s).getD 0 : Nat) : Int) := fun s => by
    unfold formulaAtom
    cases elementZ s <;> rfl
  simp only [hz, Int.ofNat_le]

/-- the record `to_graph` builds from the formula atom of element `s` and the attribute record `e` -/
def outAtom (s : Str) (z : Nat) (e : Atom) : Atom :=
  { sym := some s, z := some (z : Int), part := some 0, mass := e.mass, rad := e.rad,
    inv := some [(z : Int), e.mass.getD 0, e.rad.getD 0] }

theorem addInvariantCode_formulaAtom {s : Str} {z : Nat} (hz : elementZ s = some z) {e : Atom} (he : OnlyMassRad e) :
    addInvariantCode ((formulaAtom s).update e) = .ok (outAtom s z e) := by
  rw [he.eq]
  simp [formulaAtom, hz, Atom.update, addInvariantCode, outAtom]

end AstDen

/-- **The returned graph, in terms of the syntax tree**: the atoms are the formula's expansion in the stable order of
atomic numbers, the bonds are the tuples, the masses and radicals are the attribute settings. -/
structure Ast.Denotes (ast : Ast) (g : Graph) : Prop where
  valid : ast.Valid
  labels : g.labels = List.range ast.atomCount
  wf : g.WF
  simple : g.Simple
  elems : ∀ i (hi : i < ast.sortedSymbols.length), ∃ x z, g.attrs? i = some x ∧
    x.sym = some ast.sortedSymbols[i] ∧ elementZ ast.sortedSymbols[i] = some z ∧ x.z = some (z : Int)
  code : ∀ (i : Nat) (x : Atom), g.attrs? i = some x →
    x.part = some 0 ∧ x.inv = some [x.z.getD 0, x.mass.getD 0, x.rad.getD 0]
  adj : ∀ i j : Nat, g.Adj i j ↔
    ∃ p ∈ ast.tuples, (litVal p.1 = i + 1 ∧ litVal p.2 = j + 1) ∨ (litVal p.1 = j + 1 ∧ litVal p.2 = i + 1)
  attrs : ∀ (i : Nat) (x : Atom), g.attrs? i = some x →
    (∀ v : Int, x.mass = some v ↔ ∃ w : Nat, (w : Int) = v ∧ (i + 1, "mass".toList, w) ∈ ast.valuedSettings) ∧
    (∀ v : Int, x.rad = some v ↔ ∃ w : Nat, (w : Int) = v ∧ (i + 1, "rad".toList, w) ∈ ast.valuedSettings) ∧
    x.chg = none ∧ x.x = none ∧ x.y = none ∧ x.zc = none

theorem denotes_of_sentence {s : Str} {toks : List Tok} {ast : Ast} {g : Graph}
    (hl : lex s = some toks) (hsen : Sentence toks ast) (h : graphFromTucan s = .ok g) : ast.Denotes g := by
  obtain ⟨hv, h4⟩ := valid_of_accepted hl hsen h
  have ok := Acc.sentence_ok hl hsen
  have hgood := Acc.good_of_valid ok hv
  obtain ⟨hlab, hw, hsimp, hat, hadj⟩ := toGraph_of_ok hgood h4
  rw [Acc.state_length] at hlab hat
  have hnode : ∀ i (hi : i < ast.sortedSymbols.length), ∃ z : Nat, elementZ ast.sortedSymbols[i] = some z ∧
      g.attrs? i = some (AstDen.outAtom ast.sortedSymbols[i] z (extraOf ast.state i)) := by
    intro i hi
    obtain ⟨x, hx1, hx2⟩ := hat i (ast.sortedSymbols_length ▸ hi)
    obtain ⟨p, hp, hs⟩ := List.mem_flatMap.1 (ast.sortedSymbols_perm.mem_iff.1 (List.getElem_mem hi))
    obtain ⟨z, hz⟩ := Option.isSome_iff_exists.1 (ok.formula p hp).1
    rw [← (List.mem_replicate.1 hs).2] at hz
    unfold atomAt at hx1
    rw [AstDen.sorted_atoms, List.getElem?_map, List.getElem?_eq_getElem hi, Option.map_some, Option.getD_some,
      AstDen.addInvariantCode_formulaAtom hz (PDen.onlyMassRad_extraOf hgood _)] at hx1
    exact ⟨z, hz, Except.ok.inj hx1 ▸ hx2⟩
  -- an atom found at `i` is the record `hnode` names
  have hout : ∀ {i x}, g.attrs? i = some x → ∃ (hi : i < ast.sortedSymbols.length) (z : Nat),
      x = AstDen.outAtom ast.sortedSymbols[i] z (extraOf ast.state i) := fun {i x} hx => by
      have hi : i < ast.sortedSymbols.length := Decidable.not_not.1 fun hn => by
        rw [NxE.attrs?_of_not_mem (by rwa [hlab, List.mem_range, ← ast.sortedSymbols_length])] at hx
        cases hx
      obtain ⟨z, -, hx'⟩ := hnode i hi
      exact ⟨hi, z, Option.some.inj (hx.symm.trans hx')⟩
  refine ⟨hv, hlab, hw, hsimp, fun i hi => ?_, fun i x hx => ?_, fun i j => ?_, fun i x hx => ?_⟩
  · obtain ⟨z, hz, hx⟩ := hnode i hi
    exact ⟨_, z, hx, rfl, hz, rfl⟩
  · obtain ⟨-, z, rfl⟩ := hout hx
    exact ⟨rfl, rfl⟩
  · rw [hadj i j, Acc.mem_state_bonds, Acc.mem_state_bonds, ← exists_or]
    exact exists_congr fun p => and_or_left.symm
  · obtain ⟨-, z, rfl⟩ := hout hx
    have hm := Acc.fieldOf_extraOf ok.attrs hv.once i (.inl rfl)
    have hr := Acc.fieldOf_extraOf ok.attrs hv.once i (.inr rfl)
    rw [Acc.fieldOf_mass] at hm
    rw [Acc.fieldOf_rad] at hr
    -- (the projections of `outAtom` are reduced first: the unifier, given `(outAtom … e).mass =?= e.mass`, unfolds `e`)
    dsimp only [AstDen.outAtom]
    exact ⟨hm, hr, rfl, rfl, rfl, rfl⟩

theorem graphFromTucan_sentence_denotes {s : Str} {g : Graph} (h : graphFromTucan s = .ok g) :
    ∃ toks ast, lex s = some toks ∧ Sentence toks ast ∧ ast.Denotes g := by
  obtain ⟨toks, ast, hl, hsen, _⟩ := (graphFromTucan_accepts_iff s).1 ⟨g, h⟩
  exact ⟨toks, ast, hl, hsen, denotes_of_sentence hl hsen h⟩

/-- `Ast.Denotes` for the string's own tokens and tree.  The symbols are given as *some* arrangement `syms` of the expansion
by non-decreasing atomic number, so that the statement names no sorting function; it is `ast.sortedSymbols`
(`C10_elements`). -/
theorem graphFromTucan_denotes (s : Str) (g : Graph) (h : graphFromTucan s = .ok g) :
    ∃ toks ast, lex s = some toks ∧ Sentence toks ast ∧ ast.Valid ∧
      g.labels = List.range ast.atomCount ∧ g.WF ∧ g.Simple ∧
      (∃ syms : List Str, syms.Perm ast.expansion ∧
        syms.Pairwise (fun a b => (elementZ a).getD 0 ≤ (elementZ b).getD 0) ∧
        ∀ i (hi : i < syms.length), ∃ x z, g.attrs? i = some x ∧ x.sym = some syms[i] ∧
          elementZ syms[i] = some z ∧ x.z = some (z : Int)) ∧
      (∀ i j : Nat, g.Adj i j ↔
        ∃ p ∈ ast.tuples, (litVal p.1 = i + 1 ∧ litVal p.2 = j + 1) ∨ (litVal p.1 = j + 1 ∧ litVal p.2 = i + 1)) ∧
      (∀ (i : Nat) (x : Atom), g.attrs? i = some x →
        (∀ v : Int, x.mass = some v ↔ ∃ w : Nat, (w : Int) = v ∧ (i + 1, "mass".toList, w) ∈ ast.valuedSettings) ∧
        (∀ v : Int, x.rad = some v ↔ ∃ w : Nat, (w : Int) = v ∧ (i + 1, "rad".toList, w) ∈ ast.valuedSettings) ∧
        x.chg = none ∧ x.x = none ∧ x.y = none ∧ x.zc = none) := by
  obtain ⟨toks, ast, hl, hsen, d⟩ := graphFromTucan_sentence_denotes h
  exact ⟨toks, ast, hl, hsen, d.valid, d.labels, d.wf, d.simple,
    ⟨_, ast.sortedSymbols_perm, ast.sortedSymbols_pairwise, d.elems⟩, d.adj, d.attrs⟩

theorem Ast.Valid.setting_val {ast : Ast} (hv : ast.Valid) (ha : Acc.AttrsOk ast.attrs) {i w : Nat} {k : Str}
    (hx : (i, k, w) ∈ ast.valuedSettings) : 1 ≤ w ∧ (natRepr w).length ≤ intMaxStrDigits := by
  obtain ⟨b, hb, hx⟩ := List.mem_flatMap.1 hx
  obtain ⟨kv, hkv, e⟩ := List.mem_map.1 hx
  cases e
  have hlit := ((ha b hb).2.2 kv hkv).2
  refine ⟨hlit.numeral.1, ?_⟩
  rw [← hlit.numeral.2]
  refine hv.lits _ ?_
  exact List.mem_append_right _ (List.mem_flatMap.2 ⟨b, hb, List.mem_cons_of_mem _ (List.mem_map_of_mem hkv)⟩)

/-- the atoms of the denoted graph are chemistry-level atoms: a mass or radical value is the value of a literal of the valid
tree, so positive and short -/
theorem Ast.Denotes.molAtoms {ast : Ast} {g : Graph} (d : ast.Denotes g) (ha : Acc.AttrsOk ast.attrs) : g.MolAtoms := by
  intro i hi x hx
  rw [d.labels, List.mem_range, ← Ast.sortedSymbols_length] at hi
  obtain ⟨x', z, hx', hsym, hez, hxz⟩ := d.elems i hi
  cases hx.symm.trans hx'
  have hinv := (d.code i x hx).2
  rw [hxz] at hinv
  obtain ⟨hm, hr, -⟩ := d.attrs i x hx
  have hval : ∀ {k : Str} {v : Int}, (∃ w : Nat, (w : Int) = v ∧ (i + 1, k, w) ∈ ast.valuedSettings) →
      0 < v ∧ (intRepr v).length ≤ intMaxStrDigits := by
    rintro k v ⟨w, rfl, hmem⟩
    obtain ⟨p1, p2⟩ := d.valid.setting_val ha hmem
    exact ⟨by omega, p2⟩
  exact ⟨⟨z, hxz, by rw [hsym, symOfZ_of_elementZ hez], hinv,
      fun h0 => absurd (hval ((hm 0).1 h0)).1 (by decide), fun h0 => absurd (hval ((hr 0).1 h0)).1 (by decide)⟩,
    ⟨_, hsym⟩, fun v hv' => hval ((hm v).1 hv'), fun v hv' => hval ((hr v).1 hv')⟩

theorem Ast.Denotes.part {ast : Ast} {g : Graph} (d : ast.Denotes g) :
    ∀ a ∈ g.labels, ∃ x, g.attrs? a = some x ∧ x.part = some 0 := by
  intro a ha
  rw [d.labels, List.mem_range, ← ast.sortedSymbols_length] at ha
  obtain ⟨x, -, hx, -⟩ := d.elems a ha
  exact ⟨x, hx, (d.code a x hx).1⟩

/-- **The parser's output is a molecule graph.** -/
theorem graphFromTucan_mol (s : Str) (g : Graph) (h : graphFromTucan s = .ok g) :
    g.WF ∧ g.Simple ∧ g.MolAtoms ∧ (∃ n, g.labels = List.range n) ∧
    (∀ a ∈ g.labels, ∃ x, g.attrs? a = some x ∧ x.part = some 0) := by
  obtain ⟨toks, ast, hl, hsen, d⟩ := graphFromTucan_sentence_denotes h
  exact ⟨d.wf, d.simple, d.molAtoms (Acc.sentence_ok hl hsen).attrs, ⟨_, d.labels⟩, d.part⟩

end Tucan
