import TucanModel.Molfile
/-! **S7.**  The CTfile format lets a logical `M  V30 ` line continue over several physical lines, split at any
positions (inside a token, directly after a minus sign, before or after a blank).  Whatever the split, the reader's
splicing (`concatLinesWithDash`, `molfile_v3000_reader._concat_lines_with_dash`) restores the logical line; the
writer's wrapping (`addV30Line`, `molfile_writer._add_v30_line`) is one way of splitting. -/
namespace Tucan

theorem v30Prefix_length : v30Prefix.length = 7 := by decide +kernel
@[simp] theorem v30Prefix_isPrefixOf (l : Str) : startsWith (v30Prefix ++ l) v30Prefix = true :=
  List.isPrefixOf_iff_prefix.2 (List.prefix_append _ _)
@[simp] theorem drop_v30Prefix (l : Str) : (v30Prefix ++ l).drop 7 = l := List.drop_left' v30Prefix_length
@[simp] theorem endsWithChar_append_dash (l : Str) : endsWithChar (l ++ ['-']) '-' = true := by
  simp [endsWithChar]

/-- what splicing must return for a block that starts with one complete logical line `full`: the form in which
`C07_splice_any_split` and `C09_splice_wrap` say it; it is `(concatLinesWithDash rest).map (full :: ·)` (`expectedSplice_eq`) -/
def expectedSplice (full : Str) (rest : List Str) : PyM (List Str) :=
  match rest with
  | [] => .ok [full]
  | _ :: _ => (concatLinesWithDash rest).map (full :: ·)

theorem concatLinesWithDash_cons {c : Str} (h : (startsWith c v30Prefix && endsWithChar c '-') = false) (ls : List Str) :
    concatLinesWithDash (c :: ls) = (concatLinesWithDash ls).map (c :: ·) := by
  cases ls with
  | nil => rw [concatLinesWithDash, concatLinesWithDash]; rfl
  | cons _ _ => rw [concatLinesWithDash, h]; rfl

theorem expectedSplice_eq (full : Str) (rest : List Str) :
    expectedSplice full rest = (concatLinesWithDash rest).map (full :: ·) := by
  cases rest with
  | nil => rw [concatLinesWithDash]; rfl
  | cons _ _ => rfl

theorem splice_passthrough (pre : List Str) (h : ∀ l ∈ pre, (startsWith l v30Prefix && endsWithChar l '-') = false)
    (rest : List Str) : concatLinesWithDash (pre ++ rest) = (concatLinesWithDash rest).map (pre ++ ·) := by
  induction pre with
  | nil =>
    rw [List.nil_append]
    cases concatLinesWithDash rest <;> rfl
  | cons c pre ih =>
    rw [List.cons_append, concatLinesWithDash_cons (h c (.head _)), ih fun x hx => h x (.tail _ hx)]
    cases concatLinesWithDash rest <;> rfl

/-- physical lines of a logical line `parts.flatten ++ last` split after each element of `parts` -/
def physicalLines (parts : List Str) (last : Str) : List Str :=
  parts.map (fun p => v30Prefix ++ p ++ ['-']) ++ [v30Prefix ++ last]

theorem concat_step (x n : Str) (rest : List Str) :
    concatLinesWithDash ((v30Prefix ++ x ++ ['-']) :: (v30Prefix ++ n) :: rest) =
      concatLinesWithDash ((v30Prefix ++ (x ++ n)) :: rest) := by
  rw [concatLinesWithDash, List.append_assoc, v30Prefix_isPrefixOf, ← List.append_assoc, endsWithChar_append_dash,
    v30Prefix_isPrefixOf, List.dropLast_concat, drop_v30Prefix]
  simp only [Bool.and_self, if_true, List.append_assoc]

/-- **Splicing inverts splitting at any positions.** -/
theorem splice_any_split (parts : List Str) (last : Str) (rest : List Str)
    (h : endsWithChar (v30Prefix ++ parts.flatten ++ last) '-' = false) :
    concatLinesWithDash (physicalLines parts last ++ rest) = expectedSplice (v30Prefix ++ parts.flatten ++ last) rest := by
  -- the first part takes up the parts after it one by one, until one line is left
  have merge : ∀ (ps : List Str) (p : Str), concatLinesWithDash (physicalLines (p :: ps) last ++ rest) =
      concatLinesWithDash ((v30Prefix ++ ((p :: ps).flatten ++ last)) :: rest) := by
    intro ps
    induction ps with
    | nil => intro p; simpa [physicalLines] using concat_step p last rest
    | cons q ps ih =>
      intro p
      have step := concat_step p (q ++ ['-']) (physicalLines ps last ++ rest)
      have ih := ih (p ++ q)
      simp only [physicalLines, List.map_cons, List.cons_append, List.append_assoc, List.flatten_cons] at step ih ⊢
      rw [step, ih]
  rw [List.append_assoc] at h ⊢
  have one : concatLinesWithDash ((v30Prefix ++ (parts.flatten ++ last)) :: rest) =
      expectedSplice (v30Prefix ++ (parts.flatten ++ last)) rest := by
    rw [expectedSplice_eq, concatLinesWithDash_cons (by rw [h, Bool.and_false])]
  cases parts with
  | nil => exact one
  | cons p ps => rw [merge, one]

theorem mem_physicalLines {parts : List Str} {last p : Str} :
    p ∈ physicalLines parts last ↔ (∃ q ∈ parts, p = v30Prefix ++ q ++ ['-']) ∨ p = v30Prefix ++ last := by
  simp only [physicalLines, List.mem_append, List.mem_map, List.mem_singleton, eq_comm]

/-- the writer's wrapping is one particular way of splitting a line: after every 71 characters, as long as
more than 72 are left -/
theorem addV30Line_parts (line : Str) :
    ∃ parts last, parts.flatten ++ last = line ∧ addV30Line line = physicalLines parts last ∧
      (∀ q ∈ parts, q.length = 71) ∧ last.length ≤ 72 := by
  induction line using addV30Line.induct with
  | case1 l h =>
    refine ⟨[], l, by simp, ?_, nofun, h⟩
    rw [addV30Line]; simp [h, physicalLines]
  | case2 l h ih =>
    obtain ⟨parts, last, h1, h2, h3, h4⟩ := ih
    refine ⟨l.take 71 :: parts, last, ?_, ?_, ?_, h4⟩
    · rw [List.flatten_cons, List.append_assoc, h1, List.take_append_drop]
    · rw [addV30Line]; simp only [h, if_false, h2]
      simp [physicalLines]
    · intro q hq
      rcases List.mem_cons.1 hq with rfl | hq
      · rw [List.length_take]; omega
      · exact h3 q hq

theorem splice_wrap (line : Str) (rest : List Str) (h : endsWithChar (v30Prefix ++ line) '-' = false) :
    concatLinesWithDash (addV30Line line ++ rest) = expectedSplice (v30Prefix ++ line) rest := by
  obtain ⟨parts, last, rfl, h2, -, -⟩ := addV30Line_parts line
  -- (bracketed as `splice_any_split` has it: otherwise the unifier compares the two sides by spelling out the prefix)
  rw [h2, ← List.append_assoc]
  rw [← List.append_assoc] at h
  exact splice_any_split parts last rest h

/-- every physical line is at most 79 characters (80 with the newline) -/
theorem addV30Line_length_le (line : Str) : ∀ p ∈ addV30Line line, p.length ≤ 79 := by
  obtain ⟨parts, last, -, h2, h3, h4⟩ := addV30Line_parts line
  intro p hp
  rw [h2, mem_physicalLines] at hp
  -- (no `rfl` pattern: substituting evaluates `v30Prefix`)
  rcases hp with ⟨q, hq, hp⟩ | hp
  · simp [hp, v30Prefix_length, h3 q hq]
  · simp only [hp, List.length_append, v30Prefix_length]; omega

end Tucan
