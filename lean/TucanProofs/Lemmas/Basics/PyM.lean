import TucanModel.Py
/-! Taking `PyM` (`Except PyErr`) `do`-blocks apart.  Normal forms: `pure a` is rewritten to `Except.ok a`, `throw e`
to `Except.error e`; `>>=` is kept (never unfolded to `Except.bind`). -/
namespace Tucan

-- results of model functions are compared by evaluation (`decide`) in the concrete examples
deriving instance DecidableEq for Except

theorem ite_and {α : Sort _} {p q : Prop} [Decidable p] [Decidable q] (a b : α) :
    (if p ∧ q then a else b) = if p then if q then a else b else b := by
  by_cases hp : p <;> simp [hp]

end Tucan

namespace Tucan.PyM

universe u v
variable {α β γ : Type u} {ι : Type v}

@[simp] theorem pure_eq_ok (a : α) : (pure a : PyM α) = .ok a := rfl
@[simp] theorem throw_eq_error (e : PyErr) : (throw e : PyM α) = .error e := rfl
@[simp] theorem ok_bind (a : α) (f : α → PyM β) : (Except.ok a : PyM α) >>= f = f a := rfl
@[simp] theorem error_bind (e : PyErr) (f : α → PyM β) : (Except.error e : PyM α) >>= f = .error e := rfl

theorem bind_eq_ok {x : PyM α} {f : α → PyM β} {b : β} :
    x >>= f = .ok b ↔ ∃ a, x = .ok a ∧ f a = .ok b := by
  cases x <;> simp

theorem ite_eq_ok {c : Prop} [Decidable c] {a r : α} {e : PyErr} :
    (if c then (.ok a : PyM α) else .error e) = .ok r ↔ c ∧ r = a := by
  split <;> simp [*, eq_comm]

theorem ite_bind {c : Prop} [Decidable c] (x y : PyM α) (f : α → PyM β) :
    (if c then x else y) >>= f = if c then x >>= f else y >>= f :=
  apply_ite (· >>= f) c x y

theorem mapM_eq_ok_iff {f : ι → PyM β} {P : ι → Prop} {g : ι → β} :
    ∀ {l : List ι} {r : List β}, (∀ x ∈ l, ∀ y, f x = .ok y ↔ P x ∧ y = g x) →
      (l.mapM f = .ok r ↔ (∀ x ∈ l, P x) ∧ r = l.map g)
  | [], r, _ => by
    rw [List.mapM_nil, pure_eq_ok, Except.ok.injEq]
    exact ⟨fun h => ⟨fun _ hx => (nomatch hx), h.symm⟩, fun h => h.2.symm⟩
  | a :: l, r, hf => by
    simp only [List.mapM_cons, bind_eq_ok, pure_eq_ok, Except.ok.injEq, hf a List.mem_cons_self,
      mapM_eq_ok_iff fun x hx => hf x (List.mem_cons_of_mem _ hx), List.forall_mem_cons, List.map_cons]
    exact ⟨fun ⟨_, ⟨ha, rfl⟩, _, ⟨hl, rfl⟩, e⟩ => ⟨⟨ha, hl⟩, e.symm⟩,
      fun ⟨⟨ha, hl⟩, e⟩ => ⟨_, ⟨ha, rfl⟩, _, ⟨hl, rfl⟩, e.symm⟩⟩

theorem mapM_eq_ok_map {f : ι → PyM β} (g : ι → β) {l : List ι} (h : ∀ x ∈ l, f x = .ok (g x)) :
    l.mapM f = .ok (l.map g) :=
  (mapM_eq_ok_iff (P := fun _ => True) fun x hx y => by rw [h x hx, Except.ok.injEq, true_and, eq_comm]).2
    ⟨fun _ _ => trivial, rfl⟩

/-- for a loop whose state has a closed form `G` in the elements read so far -/
theorem foldlM_eq_ok_of_prefix {step : β → ι → PyM β} (G : List ι → β) {l : List ι}
    (h : ∀ pre a post, l = pre ++ a :: post → step (G pre) a = .ok (G (pre ++ [a]))) :
    l.foldlM step (G []) = .ok (G l) := by
  suffices H : ∀ (post pre : List ι), l = pre ++ post → post.foldlM step (G pre) = .ok (G l) from H l [] rfl
  intro post
  induction post with
  | nil => intro pre hl; rw [hl, List.append_nil]; rfl
  | cons a post ih =>
    intro pre hl
    rw [List.foldlM_cons, h pre a post hl, ok_bind]
    exact ih (pre ++ [a]) (by rw [hl, List.append_assoc, List.singleton_append])

/-- a loop that appends `g a` for each element and raises `e` at the first `a` that fails the test `ok` -/
theorem foldlM_guard_append {f : List β → ι → PyM (List β)} {ok : ι → Prop} [DecidablePred ok] {g : ι → List β}
    {e : PyErr} : ∀ {l : List ι}, (∀ a ∈ l, ∀ acc, f acc a = if ok a then .ok (acc ++ g a) else .error e) →
      ∀ {acc}, l.foldlM f acc = if ∀ a ∈ l, ok a then .ok (acc ++ l.flatMap g) else .error e
  | [], _, acc => by simp
  | a :: l, hf, acc => by
    rw [List.foldlM_cons, hf a List.mem_cons_self]
    by_cases ha : ok a
    · rw [if_pos ha, ok_bind, foldlM_guard_append fun x hx => hf x (List.mem_cons_of_mem _ hx)]
      simp [ha, List.append_assoc]
    · simp [ha]

theorem forM_eq_ok {f : ι → PyM PUnit} : ∀ {l : List ι}, l.forM f = .ok () ↔ ∀ a ∈ l, f a = .ok ()
  | [] => by simp
  | a :: l => by
    show (f a >>= fun _ => l.forM f) = _ ↔ _
    rw [bind_eq_ok, List.forall_mem_cons, ← forM_eq_ok]
    exact ⟨fun ⟨_, h1, h2⟩ => ⟨h1, h2⟩, fun ⟨h1, h2⟩ => ⟨(), h1, h2⟩⟩

/-- a `for` loop that raises `e` at the first element failing `ok` and otherwise steps by the pure `g`.  `P` is a loop
invariant: the body `f` need have this form only on states that satisfy it. -/
theorem forIn_guard {f : ι → β → PyM (ForInStep β)} (g : β → ι → β) (ok : ι → Prop) [DecidablePred ok]
    (P : β → Prop) {e : PyErr} : ∀ {l : List ι} {b : β}, P b →
    (∀ b, ∀ a ∈ l, P b → f a b = (if ok a then .ok (.yield (g b a)) else .error e) ∧ (ok a → P (g b a))) →
    forIn l b f = if ∀ a ∈ l, ok a then .ok (l.foldl g b) else .error e
  | [], _, _, _ => by simp
  | a :: l, b, hb, h => by
    obtain ⟨h1, h2⟩ := h b a List.mem_cons_self hb
    rw [List.forIn_cons, h1]
    by_cases ha : ok a
    · rw [if_pos ha, ok_bind]
      show forIn l (g b a) f = _
      rw [forIn_guard g ok P (h2 ha) fun b' a' ha' => h b' a' (List.mem_cons_of_mem _ ha')]
      simp [ha]
    · simp [ha]

end Tucan.PyM
