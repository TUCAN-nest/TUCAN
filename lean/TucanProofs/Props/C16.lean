import TucanProofs.Lemmas.Permute
import TucanProofs.Examples
/-!
# C16 — the permutation helper returns a faithful relabelled copy

Model: `permuteMolecule g shuffles` (`permute_molecule`), where `shuffles` is the stream of results of
`random.shuffle` after `random.seed(seed)` (recorded from the real run by the harness).  The result is a
*function* of the argument and of that stream, which is what "same result for the same seed" means.
The argument is a value, so "leaves its argument unchanged" is what the harness checks on the real code.
-/
namespace Tucan

/-- The helper's result is the argument renamed by a bijection of its label set: same label set, nodes
listed in label order, every atom attribute and every bond record carried along (`Relabel`). -/
theorem C16_faithful (g : Graph) (hw : g.WF) (hs : g.Simple) (shuffles : List (List Nat))
    (hall : ∀ s ∈ shuffles, s.Perm g.labels) (r : Graph) (h : permuteMolecule g shuffles = .ok r) :
    ∃ π : Nat → Nat, Relabel π g r ∧ r.labels = sortN g.labels ∧ r.WF ∧ r.Simple := by
  obtain ⟨s, hs', rfl⟩ := permuteMolecule_mem g shuffles r h
  obtain ⟨rel, hl⟩ := permuteOnce_spec hw (hall s hs')
  exact ⟨_, rel, hl, rel.wf hw, rel.simple hw hs⟩

/-- **For a molecule with at least two bonds that is not a complete graph, the returned edge set differs from
the original one** — in terms of adjacency: if two different atoms of the argument are not bonded and it has at
least two bonds, some pair of labels is bonded in the argument and not in the result, so the two adjacency
relations are not the same. -/
theorem C16_edges_differ (g : Graph) (hw : g.WF) (hs : g.Simple) (shuffles : List (List Nat))
    (hall : ∀ s ∈ shuffles, s.Perm g.labels) (r : Graph) (h : permuteMolecule g shuffles = .ok r)
    (h2 : 2 ≤ g.numberOfEdges)
    (hnon : ∃ a ∈ g.labels, ∃ b ∈ g.labels, a ≠ b ∧ ¬ g.Adj a b) :
    (∃ a b, g.Adj a b ∧ ¬ r.Adj a b) ∧ ¬ (∀ a b, g.Adj a b ↔ r.Adj a b) :=
  permute_edges_differ g hw hs shuffles hall r h h2 (Nat.ne_of_lt (incomplete_count g hw hs hnon))

/-- "not a complete graph", as the helper tests it by counting: a graph in which two different atoms are not
bonded has fewer than `n·(n-1)/2` bonds -/
theorem C16_incomplete_by_count (g : Graph) (hw : g.WF) (hs : g.Simple)
    (hnon : ∃ a ∈ g.labels, ∃ b ∈ g.labels, a ≠ b ∧ ¬ g.Adj a b) :
    2 * g.numberOfEdges < g.numberOfNodes * (g.numberOfNodes - 1) :=
  incomplete_count g hw hs hnon

/-- the same in the terms of the code: when the guard `|E| > 1 and 2|E| ≠ n(n-1)` holds, the Boolean the
retry loop tests is `false` on the result -/
theorem C16_loop_exit_test (g : Graph) (shuffles : List (List Nat)) (r : Graph)
    (henf : (g.numberOfEdges > 1 && 2 * g.numberOfEdges != g.numberOfNodes * (g.numberOfNodes - 1)) = true)
    (h : permuteMolecule g shuffles = .ok r) : sameEdgeSet g r = false :=
  permuteMolecule_enforced g shuffles r henf h

/-- **The retry loop can exit.**  A molecule that has a bond and is not a complete graph always has two atoms
whose exchange changes the edge set, so a relabelling with a different edge set exists (that the loop finds
one is almost-sure and depends on the random generator; it is not a theorem). -/
theorem C16_a_changing_relabelling_exists (g : Graph) (gw : g.WF) (gs : g.Simple)
    (hbond : ∃ a b, g.Adj a b)
    (hnon : ∃ a ∈ g.labels, ∃ b ∈ g.labels, a ≠ b ∧ ¬ g.Adj a b) :
    ∃ x ∈ g.labels, ∃ y ∈ g.labels, x ≠ y ∧
      ¬ (∀ a b, g.Adj a b ↔ g.Adj (if a = x then y else if a = y then x else a)
                                   (if b = x then y else if b = y then x else b)) := by
  obtain ⟨a, b, hab⟩ := hbond
  obtain ⟨c, hc, d, hd, hcd, hncd⟩ := hnon
  have ha := hab.mem_left
  have hb := hab.mem_right gw
  have hne : b ≠ a := hab.ne gs
  refine Classical.byContradiction fun hcon => ?_
  have H : ∀ x ∈ g.labels, ∀ y ∈ g.labels, x ≠ y →
      ∀ a b, g.Adj a b ↔ g.Adj (if a = x then y else if a = y then x else a)
                                   (if b = x then y else if b = y then x else b) :=
    fun x hx y hy hxy => Classical.byContradiction fun hn => hcon ⟨x, hx, y, hy, hxy, hn⟩
  -- move the first endpoint of the bond onto `c`
  have step1 : ∃ b', b' ∈ g.labels ∧ b' ≠ c ∧ g.Adj c b' := by
    by_cases hac : a = c
    · subst hac; exact ⟨b, hb, hne, hab⟩
    · have h1 := (H a ha c hc hac a b).1 hab
      by_cases hbc : b = c
      · rw [if_pos (rfl : a = a), if_neg hne, if_pos hbc] at h1
        exact ⟨a, ha, hac, h1⟩
      · rw [if_pos (rfl : a = a), if_neg hne, if_neg hbc] at h1
        exact ⟨b, hb, hbc, h1⟩
  -- move the second endpoint onto `d`
  obtain ⟨b', hb', hb'c, hcb'⟩ := step1
  by_cases hbd : b' = d
  · subst hbd; exact hncd hcb'
  · have h2 := (H b' hb' d hd hbd c b').1 hcb'
    rw [if_neg (Ne.symm hb'c), if_neg hcd, if_pos (rfl : b' = b')] at h2
    exact hncd h2

/-- the result has as many atoms and as many bonds as the argument -/
theorem C16_same_counts (g : Graph) (hw : g.WF) (hs : g.Simple) (shuffles : List (List Nat))
    (hall : ∀ s ∈ shuffles, s.Perm g.labels) (r : Graph) (h : permuteMolecule g shuffles = .ok r) :
    r.numberOfNodes = g.numberOfNodes ∧ r.numberOfEdges = g.numberOfEdges := by
  obtain ⟨π, rel, hl, rw', rs⟩ := C16_faithful g hw hs shuffles hall r h
  exact ⟨rel.toIso.numberOfNodes, rel.toIso.numberOfEdges hw hs rw' rs⟩

/-- the label set is unchanged -/
theorem C16_same_label_set (g : Graph) (hw : g.WF) (hs : g.Simple) (shuffles : List (List Nat))
    (hall : ∀ s ∈ shuffles, s.Perm g.labels) (r : Graph) (h : permuteMolecule g shuffles = .ok r) :
    r.labels.Perm g.labels := by
  obtain ⟨π, _, hl, _, _⟩ := C16_faithful g hw hs shuffles hall r h
  exact hl ▸ sortN_perm g.labels

/-- non-vacuity of `C16_edges_differ`: the example molecule has two bonds and two atoms (0 and 2) that are not
bonded -/
example : 2 ≤ exGraph.numberOfEdges ∧ ∃ a ∈ exGraph.labels, ∃ b ∈ exGraph.labels, a ≠ b ∧ ¬ exGraph.Adj a b :=
  ⟨by decide, 0, by decide, 2, by decide, by decide, by unfold Graph.Adj; decide⟩

/-- non-vacuity: the hypotheses are met by a concrete molecule and a concrete shuffle -/
example : exGraph.WF ∧ exGraph.Simple ∧ (∀ s ∈ [[1, 2, 0]], s.Perm exGraph.labels) :=
  ⟨exGraph_wf, exGraph_simple, List.forall_mem_singleton.2 (by decide)⟩

end Tucan
