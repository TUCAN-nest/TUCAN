import TucanProofs.Oracle
import TucanProofs.Lemmas.Refine
import TucanProofs.Lemmas.Domain
/-!
# C04 — relabelling by the canonical order; an oracle that meets the bliss contract

`canonicalizeWith g order` is the model of `canonicalize_molecule` with igraph's answer as a parameter.
For every oracle meeting the bliss contract (`CanonOracle`), relabelling two colour-isomorphic refined graphs by
their canonical orders gives the same labels, the same identity data and class on every label and the same
adjacency; that equal classes mean equal identity data is where chemistry-level atoms (`Atom.Chem`) are needed.
The theorems that quantify over `CanonOracle` would be vacuous if no oracle met the contract: one is
constructed at the end (non-computably: a canonical form chosen among all orderings of the vertices).
-/
namespace Tucan

theorem EqAux.Reclassed.chem {g r : Graph} (h : EqAux.Reclassed g r) (hchem : g.Chem) : r.Chem := by
  intro a ha y hy
  obtain ⟨x, q, hx, hr⟩ := h.attrs a (h.labels ▸ ha)
  cases hr.symm.trans hy
  exact hchem a (h.labels ▸ ha) x hx

theorem ClassesRespectIdent.sameIdent {r : Graph} (h : ClassesRespectIdent r) (hc : r.Chem) {a b : Nat} {x y : Atom}
    (hx : r.attrs? a = some x) (hy : r.attrs? b = some y) (e : partOf? r a = partOf? r b) : SameIdent x y := by
  have ha := Graph.mem_labels_of_attrs? hx
  have hb := Graph.mem_labels_of_attrs? hy
  have cx := hc a ha x hx
  have cy := hc b hb y hy
  refine cx.sameIdent_of_inv cy ?_
  obtain ⟨_, _, _, hi, _, _⟩ := cx
  obtain ⟨_, _, _, hi', _, _⟩ := cy
  -- the stored codes are what `keyD` reads
  simpa [keyD, hx, hy, Atom.key, hi, hi'] using h a ha b hb e

/-- **Relabelling by igraph's canonical order.**  If two refined graphs are colour-isomorphic, relabelling
each by the canonical order of an oracle meeting the bliss contract gives the same labelled graph up to
listing: equal identity data and class on every label, equal adjacency. -/
theorem canonical_relabel (O : CanonOracle) {f : Nat → Nat} {r r' : Graph}
    (hw : r.WF) (hw' : r'.WF) (iso : Iso SameIdentPart f r r') (hchem : r.Chem) (hresp : ClassesRespectIdent r) :
    Iso SameIdentPart id (r.relabelCopy (O.order r).zipIdx) (r'.relabelCopy (O.order r').zipIdx) := by
  have hp := O.perm r hw
  have hp' := O.perm r' hw'
  obtain ⟨rel, _, hrange⟩ := relabel_zipIdx_spec hw hp
  obtain ⟨rel', _, hrange'⟩ := relabel_zipIdx_spec hw' hp'
  rw [iso.numberOfNodes] at hrange'
  have isoP : Iso SamePart f r r' := iso.mono (fun x y h => h.part)
  -- the atoms at position `i` of the two orders; `relabel_zipIdx_attrs`, `_adj` say what the canonical graphs hold there
  have atPos : ∀ i, i < r.numberOfNodes → ∃ a a', (O.order r)[i]? = some a ∧ (O.order r')[i]? = some a' := by
    intro i hi
    have hlen := hp.length_eq.trans r.length_labels
    have hlen' := (hp'.length_eq.trans r'.length_labels).trans iso.numberOfNodes
    exact ⟨_, _, List.getElem?_eq_getElem (by omega), List.getElem?_eq_getElem (by omega)⟩
  refine Iso.of_range hrange hrange' (rel.wf hw) (rel'.wf hw') (fun _ hi => hi) (fun _ _ _ _ h => h) (fun i hi => ?_)
    fun i j hi hj => ?_
  · obtain ⟨a, a', ha, ha'⟩ := atPos i hi
    have hal := hp.mem_iff.mp (List.mem_of_getElem? ha)
    have hal' := hp'.mem_iff.mp (List.mem_of_getElem? ha')
    obtain ⟨x, hx⟩ := Graph.attrs?_some_of_mem hal
    obtain ⟨y, hy⟩ := Graph.attrs?_some_of_mem hal'
    refine ⟨x, y, (relabel_zipIdx_attrs hw hp ha).trans hx, (relabel_zipIdx_attrs hw' hp' ha').trans hy, ?_⟩
    -- class: from the oracle; identity: via a preimage of a' and the fact that classes respect identity
    have hpart := (O.canonical f r r' hw hw' isoP i i a a a' a' ha ha ha' ha').1
    obtain ⟨b, hb, rfl⟩ := iso.exists_preimage hal'
    obtain ⟨xb, yb, hxb, hyb, hsame⟩ := iso.attrs b hb
    cases hy.symm.trans hyb
    have hab := hresp.sameIdent hchem hx hxb (hpart.trans (partOf?_iso (fun _ _ h => h.part) iso hb))
    rw [partOf?_of_attrs hx, partOf?_of_attrs hy] at hpart
    exact ⟨hab.trans hsame.ident, hpart⟩
  · obtain ⟨a, a', ha, ha'⟩ := atPos i hi
    obtain ⟨b, b', hb, hb'⟩ := atPos j hj
    exact (relabel_zipIdx_adj hw hp ha hb).trans
      ((O.canonical f r r' hw hw' isoP i j a b a' b' ha hb ha' hb').2.trans (relabel_zipIdx_adj hw' hp' ha' hb').symm)

namespace OracleNonempty

/-- what a canonical form shows: the class at every position, and the adjacency matrix -/
abbrev Code := List (Option Int) × List (List Bool)

def code (r : Graph) (l : List Nat) : Code :=
  (l.map (partOf? r), l.map fun a => l.map fun b => decide (b ∈ r.nbrs a))

def Forms (r : Graph) (c : Code) : Prop := ∃ l : List Nat, l.Perm r.labels ∧ code r l = c

theorem code_map {f : Nat → Nat} {r r' : Graph} (iso : Iso SamePart f r r') (hw : r.WF) {l : List Nat}
    (hl : ∀ a ∈ l, a ∈ r.labels) : code r' (l.map f) = code r l := by
  unfold code
  simp only [List.map_map]
  refine Prod.ext ?_ ?_
  · exact List.map_congr_left fun a ha => partOf?_iso (fun _ _ h => h) iso (hl a ha)
  · refine List.map_congr_left fun a ha => List.map_congr_left fun b hb => ?_
    simp only [Function.comp_apply]
    exact decide_eq_decide.mpr (iso.adj_iff hw (hl a ha) (hl b hb))

theorem forms_iso {f : Nat → Nat} {r r' : Graph} (iso : Iso SamePart f r r') (hw : r.WF) :
    Forms r = Forms r' := by
  funext c
  apply propext
  constructor
  · rintro ⟨l, hl, rfl⟩
    exact ⟨l.map f, (hl.map f).trans iso.labels.symm, code_map iso hw fun a ha => hl.mem_iff.mp ha⟩
  · rintro ⟨l', hl', rfl⟩
    obtain ⟨l, hl, rfl⟩ := List.exists_map_of_perm_map f l' r.labels (hl'.trans iso.labels)
    exact ⟨l, hl, (code_map iso hw fun a ha => hl.mem_iff.mp ha).symm⟩

/-- the chosen form: depends on the set of forms only -/
noncomputable def canonCode (r : Graph) : Code := Classical.epsilon (Forms r)

noncomputable def order (r : Graph) : List Nat :=
  Classical.epsilon fun l : List Nat => l.Perm r.labels ∧ code r l = canonCode r

theorem order_spec (r : Graph) : (order r).Perm r.labels ∧ code r (order r) = canonCode r :=
  Classical.epsilon_spec (p := fun l : List Nat => l.Perm r.labels ∧ code r l = canonCode r)
    (Classical.epsilon_spec (p := Forms r) ⟨code r r.labels, r.labels, .refl _, rfl⟩)

end OracleNonempty

open OracleNonempty in
theorem CanonOracle.nonempty : Nonempty CanonOracle := by
  refine ⟨⟨OracleNonempty.order, fun r _ => (order_spec r).1, ?_⟩⟩
  intro f r r' hw _ iso i j a b a' b' hia hjb hia' hjb'
  have hc : OracleNonempty.code r (OracleNonempty.order r) = OracleNonempty.code r' (OracleNonempty.order r') := by
    rw [(order_spec r).2, (order_spec r').2, canonCode, canonCode, forms_iso iso hw]
  unfold OracleNonempty.code at hc
  have h1 := congrArg (fun c => c.1[i]?) hc
  have h2 := congrArg (fun c => (c.2[i]?).bind (·[j]?)) hc
  simp only [List.getElem?_map, hia, hia', hjb, hjb', Option.map_some, Option.bind_some,
    Option.some.injEq, decide_eq_decide] at h1 h2
  exact ⟨h1, h2⟩

end Tucan
