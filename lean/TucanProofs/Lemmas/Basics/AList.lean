import TucanModel.Py

/-! `alookup` / `ainsert` (Python `dict` as an insertion-ordered association list): the equations every file needs,
for any key type with a lawful `==`; at the end the `dict` of a list, with keys `0 … n-1`. -/
namespace Tucan
universe u v
variable {κ : Type u} {ν : Type v} [BEq κ] [LawfulBEq κ] {k k' : κ} {v v' : ν} {l : List (κ × ν)}

omit [LawfulBEq κ] in
@[simp] theorem alookup_nil : alookup k ([] : List (κ × ν)) = none := rfl

omit [LawfulBEq κ] in
theorem alookup_cons : alookup k ((k', v') :: l) = if k' == k then some v' else alookup k l := rfl

theorem mem_of_alookup : alookup k l = some v → (k, v) ∈ l := by
  induction l with
  | nil => simp
  | cons p l ih =>
    obtain ⟨k', v'⟩ := p
    rw [alookup_cons]
    split
    · rename_i hk; rintro ⟨⟩; simp [eq_of_beq hk]
    · exact fun h => List.mem_cons_of_mem _ (ih h)

theorem alookup_eq_none_iff : alookup k l = none ↔ k ∉ l.map (·.1) := by
  induction l with
  | nil => simp
  | cons p l ih =>
    obtain ⟨k', v'⟩ := p
    rw [alookup_cons, List.map_cons, List.mem_cons, not_or, ← ih]
    by_cases hk : k' = k
    · simp [hk]
    · simp [hk, Ne.symm hk]

theorem alookup_isSome_iff : (alookup k l).isSome ↔ k ∈ l.map (·.1) := by
  rw [Option.isSome_iff_ne_none, ne_eq, alookup_eq_none_iff, Classical.not_not]

theorem alookup_eq_some_iff (hnd : (l.map (·.1)).Nodup) : alookup k l = some v ↔ (k, v) ∈ l := by
  refine ⟨mem_of_alookup, ?_⟩
  induction l with
  | nil => simp
  | cons p l ih =>
    obtain ⟨k', v'⟩ := p
    rw [List.map_cons, List.nodup_cons] at hnd
    rw [alookup_cons]
    intro h
    rcases List.mem_cons.1 h with h | h
    · cases h; simp
    · rw [if_neg, ih hnd.2 h]
      intro hk
      exact hnd.1 (eq_of_beq hk ▸ List.mem_map.2 ⟨_, h, rfl⟩)

theorem ainsert_of_not_mem (h : k ∉ l.map (·.1)) : ainsert k v l = l ++ [(k, v)] := by
  induction l with
  | nil => rfl
  | cons p l ih =>
    obtain ⟨k', v'⟩ := p
    simp only [List.map_cons, List.mem_cons, not_or] at h
    simp [ainsert, Ne.symm h.1, ih h.2]

theorem keys_ainsert : (ainsert k v l).map (·.1) = if k ∈ l.map (·.1) then l.map (·.1) else l.map (·.1) ++ [k] := by
  induction l with
  | nil => rfl
  | cons p l ih =>
    obtain ⟨k', v'⟩ := p
    by_cases hk : k' = k
    · simp [ainsert, hk]
    · simp only [ainsert, beq_iff_eq, hk, if_false, List.map_cons, List.mem_cons, Ne.symm hk, false_or, ih]
      split <;> simp

theorem alookup_ainsert : alookup k' (ainsert k v l) = if k == k' then some v else alookup k' l := by
  induction l with
  | nil => simp [ainsert, alookup]
  | cons p l ih =>
    obtain ⟨k₀, v₀⟩ := p
    by_cases hk : k₀ = k
    · subst hk
      simp only [ainsert, beq_self_eq_true, if_true, alookup_cons]
      split <;> rfl
    · simp only [ainsert, beq_iff_eq, hk, if_false, alookup_cons, ih]
      by_cases hk' : k₀ = k'
      · subst hk'; simp [Ne.symm hk]
      · simp [hk']

omit [LawfulBEq κ] in
theorem eq_or_mem_of_mem_ainsert {p : κ × ν} : p ∈ ainsert k v l → p = (k, v) ∨ p ∈ l := by
  induction l with
  | nil => simp [ainsert]
  | cons q l ih =>
    obtain ⟨k', v'⟩ := q
    simp only [ainsert]
    split
    · simp only [List.mem_cons]; exact fun h => h.imp id Or.inr
    · simp only [List.mem_cons]
      rintro (h | h)
      · exact Or.inr (Or.inl h)
      · exact (ih h).imp id Or.inr

theorem nodup_keys_ainsert (h : (l.map (·.1)).Nodup) : ((ainsert k v l).map (·.1)).Nodup := by
  rw [keys_ainsert]
  split
  · exact h
  · rename_i hk
    exact List.nodup_append.2 ⟨h, by simp, fun a ha b hb => by rw [List.mem_singleton.1 hb]; rintro rfl; exact hk ha⟩

/-- `d[key c] = val c` for each `c` in turn, all keys new.  `B` is `acc ++ …` as the caller spells it: the equation is a
hypothesis so that no caller has to rewrite its table into this form first. -/
theorem foldl_ainsert_eq {γ} (key : γ → κ) (val : γ → ν) (items : List γ) (acc : List (κ × ν))
    {B : List (κ × ν)} (h : acc ++ (items.map fun c => (key c, val c)) = B) (hnd : (B.map (·.1)).Nodup) :
    items.foldl (fun d c => ainsert (key c) (val c) d) acc = B := by
  induction items generalizing acc with
  | nil => simpa using h
  | cons c r ih =>
    have hc : key c ∉ acc.map (·.1) := fun hm => by
      rw [← h, List.map_append, List.map_cons] at hnd
      exact (List.nodup_append.1 hnd).2.2 _ hm _ List.mem_cons_self rfl
    rw [List.foldl_cons, ainsert_of_not_mem hc]
    exact ih _ (by simpa using h)

/-- `dict(zip(l, [F(a) for a in l]))[a]` -/
theorem alookup_zip_map (F : κ → ν) {l : List κ} {a : κ} (hn : l.Nodup) (ha : a ∈ l) :
    alookup a (l.zip (l.map F)) = some (F a) := by
  have e : l.zip (l.map F) = l.map fun a => (a, F a) := by
    simpa using List.zip_map' (f := id) (g := F) (l := l)
  rw [e]
  exact (alookup_eq_some_iff (by simpa [List.map_map, Function.comp_def] using hn)).mpr (List.mem_map_of_mem ha)

omit [BEq κ] [LawfulBEq κ] in
theorem keys_zipIdx_map {α : Type u} (key : Nat → κ) (f : α → ν) (l : List α) :
    (l.zipIdx.map fun (a, i) => (key i, f a)).map (·.1) = (List.range l.length).map key := by
  rw [List.map_map, List.range_eq_range', ← List.zipIdx_map_snd 0 l, List.map_map]
  rfl

theorem alookup_of_keys_range {d : List (Int × ν)} {n : Nat}
    (hk : d.map (·.1) = (List.range n).map fun (i : Nat) => (i : Int)) (i : Nat) :
    alookup (i : Int) d = d[i]?.map (·.2) := by
  have hn : d.length = n := by simpa using congrArg List.length hk
  by_cases hi : i < d.length
  · have hnd : (d.map (·.1)).Nodup := by
      rw [hk]
      exact List.pairwise_map.2 (List.nodup_range.imp fun h hc => h (Int.ofNat.inj hc))
    have hkey : d[i].1 = (i : Int) := by
      have := congrArg (fun l => l[i]?) hk
      simpa [hi, hn ▸ hi] using this
    rw [List.getElem?_eq_getElem hi, Option.map_some, alookup_eq_some_iff hnd, ← hkey]
    exact List.getElem_mem hi
  · rw [List.getElem?_eq_none (by omega), Option.map_none, alookup_eq_none_iff, hk]
    simp only [List.mem_map, List.mem_range, Int.natCast_inj, not_exists, not_and]
    intro j hj e
    omega

end Tucan
