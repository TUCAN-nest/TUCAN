import TucanProofs.Lemmas.NxEdges
import TucanProofs.Lemmas.Iso
/-!
# networkx container lemmas II: `copy`, `relabel_nodes(copy=True)`

Characterises the model's `Graph.copy` and `Graph.relabelCopy` through the listing-independent relation
`Relabel`.  The mappings the library relabels by are dictionaries whose keys are the labels and whose values are
distinct (`relabel_dict_spec`); `dict(zip(l, range(n)))` renames by position in `l`.  At the end, the first place
that knows both `Iso` and the edge list: isomorphic graphs have the same number of bonds.
-/
namespace Tucan
open Graph NxE

namespace NxRelabel

/-- what `relabel_nodes` has built at any moment of its edge loop -/
structure EInv (f : Nat → Nat) (g h : Graph) : Prop where
  labels : h.labels = g.labels.map f
  attrs : ∀ n ∈ g.nodes, h.attrs? (f n.id) = some n.attrs
  nodupK : ∀ x, ((h.nbrsD x).map (·.1)).Nodup
  sound : ∀ x' y' e, (y', e) ∈ h.nbrsD x' → ∃ x y, x' = f x ∧ y' = f y ∧ (y, e) ∈ g.nbrsD x

theorem node_ext_of_id {g : Graph} {n m : Node} (hnd : g.labels.Nodup) (hn : n ∈ g.nodes)
    (hm : m ∈ g.nodes) (h : n.id = m.id) : n = m := by
  have h1 := find?_of_mem hnd hn
  have h2 := find?_of_mem hnd hm
  rw [h, h2] at h1
  exact (Option.some.inj h1).symm

/-- the attribute loop of `relabel_nodes` (`_node.update`) on the nodes its first loop has created:
`done` have their attributes already, `todo` are still blank -/
theorem foldl_setAttrs (f : Nat → Nat) (done todo : List Node)
    (hnd : ((done ++ todo).map fun n => f n.id).Nodup) :
    todo.foldl (fun (h : Graph) n => h.setAttrs (f n.id) n.attrs)
        ⟨done.map (bare f) ++ todo.map fun n => ⟨f n.id, {}, []⟩⟩
      = (⟨(done ++ todo).map (bare f)⟩ : Graph) := by
  induction todo generalizing done with
  | nil => rw [List.foldl_nil, List.map_nil, List.append_nil, List.append_nil]
  | cons n r ih =>
    have ih := ih (done ++ [n]) (by rw [List.append_assoc]; exact hnd)
    rw [List.map_append, List.append_assoc, List.append_assoc] at ih
    rw [List.map_append, List.map_cons, List.nodup_append] at hnd
    have step := modifyNode_mid (pre := done.map (bare f)) (post := r.map fun n => ⟨f n.id, {}, []⟩)
      (x := ⟨f n.id, {}, []⟩) (fun m => { m with attrs := n.attrs })
      (by rw [List.map_map]; exact fun hc => hnd.2.2 _ hc _ List.mem_cons_self rfl)
      (by rw [List.map_map]; exact (List.nodup_cons.1 hnd.2.1).1)
    rw [List.foldl_cons, List.map_cons, Graph.setAttrs, step]
    exact ih

end NxRelabel
open NxRelabel NxE

/-- `G.copy()` is the same graph; only the order inside neighbour lists may change -/
theorem Graph.copy_spec (g : Graph) (hw : g.WF) : Relabel id g g.copy ∧ g.copy.labels = g.labels :=
  NxE.rebuild_spec (f := id) hw (fun _ _ _ _ h => h) (.refl _)
    (fun a w d => by
      rw [NxE.mem_adjEntries hw.nodup, NxE.mem_adjEntries hw.nodup]
      exact ⟨Or.inl, fun h => h.elim id hw.symmD⟩)
    (by rw [← NxE.foldl_addNodeWith hw.nodup]; rfl)

theorem Graph.relabelCopy_spec (g : Graph) (m : List (Nat × Nat)) (hw : g.WF)
    (hinj : ∀ a ∈ g.labels, ∀ b ∈ g.labels, Graph.mapGet m a = Graph.mapGet m b → a = b) :
    Relabel (Graph.mapGet m) g (g.relabelCopy m) ∧ (g.relabelCopy m).labels = g.labels.map (Graph.mapGet m) := by
  have hndf : (g.nodes.map fun n => Graph.mapGet m n.id).Nodup :=
    g.map_labels _ ▸ hw.nodup.map_on (Graph.mapGet m) hinj
  -- the two node loops create the nodes with their attributes; then the edges of `g` are added
  have h1 : g.nodes.foldl (fun h n => h.addNode (Graph.mapGet m n.id)) Graph.empty
      = ⟨g.nodes.map fun n => ⟨Graph.mapGet m n.id, {}, []⟩⟩ :=
    foldl_append_nodes (fun h (n : Node) => h.addNode (Graph.mapGet m n.id))
      (fun n => ⟨Graph.mapGet m n.id, {}, []⟩) (fun _ _ => addNode_of_not_mem) g.nodes Graph.empty hndf
  have h2 : g.nodes.foldl (fun (h : Graph) n => h.setAttrs (Graph.mapGet m n.id) n.attrs)
      ⟨g.nodes.map fun n => ⟨Graph.mapGet m n.id, {}, []⟩⟩ = (⟨g.nodes.map (bare (Graph.mapGet m))⟩ : Graph) :=
    foldl_setAttrs (Graph.mapGet m) [] g.nodes hndf
  obtain ⟨rl, hl⟩ := NxE.rebuild_spec hw hinj (.refl _)
    (mem_nbrsD_iff_edges hw) (h := g.relabelCopy m)
    (by rw [← h2, ← h1]; rfl)
  exact ⟨rl, hl.trans (g.map_labels _).symm⟩

theorem mapGet_of_mem {fl : List (Nat × Nat)} (hk : (fl.map (·.1)).Nodup) {a v : Nat} (h : (a, v) ∈ fl) :
    Graph.mapGet fl a = v := by
  unfold Graph.mapGet
  rw [(alookup_eq_some_iff hk).mpr h]
  rfl

theorem mapGet_inj {fl : List (Nat × Nat)} (hk : (fl.map (·.1)).Nodup) (hv : (fl.map (·.2)).Nodup)
    {a b : Nat} (ha : a ∈ fl.map (·.1)) (hb : b ∈ fl.map (·.1))
    (h : Graph.mapGet fl a = Graph.mapGet fl b) : a = b := by
  obtain ⟨p, hp, rfl⟩ := List.mem_map.1 ha
  obtain ⟨q, hq, rfl⟩ := List.mem_map.1 hb
  rw [mapGet_of_mem hk hp, mapGet_of_mem hk hq] at h
  rw [hv.inj_on_of_map p hp q hq h]

theorem mapGet_zipIdx {l : List Nat} {i a : Nat} (hn : l.Nodup) (h : l[i]? = some a) :
    Graph.mapGet l.zipIdx a = i :=
  mapGet_of_mem (by rw [List.zipIdx_map_fst]; exact hn) (List.mk_mem_zipIdx_iff_getElem?.mpr h)

theorem map_mapGet_keys {fl : List (Nat × Nat)} (hk : (fl.map (·.1)).Nodup) :
    (fl.map (·.1)).map (Graph.mapGet fl) = fl.map (·.2) := by
  rw [List.map_map]
  exact List.map_congr_left fun p hp => mapGet_of_mem hk hp

theorem relabel_dict_spec {r : Graph} {fl : List (Nat × Nat)} (hw : r.WF)
    (hk : (fl.map (·.1)).Perm r.labels) (hv : (fl.map (·.2)).Nodup) :
    Relabel (Graph.mapGet fl) r (r.relabelCopy fl) ∧ (r.relabelCopy fl).labels = r.labels.map (Graph.mapGet fl) ∧
    (r.relabelCopy fl).labels.Perm (fl.map (·.2)) := by
  have hknd := hk.nodup_iff.mpr hw.nodup
  obtain ⟨rel, cl⟩ := Graph.relabelCopy_spec r fl hw fun a ha b hb =>
    mapGet_inj hknd hv (hk.mem_iff.mpr ha) (hk.mem_iff.mpr hb)
  refine ⟨rel, cl, ?_⟩
  rw [cl, ← map_mapGet_keys hknd]
  exact hk.symm.map _

/-- `l.zipIdx` is `dict(zip(l, range(n)))`, the mapping `sort_molecule_by_attribute` and
`canonicalize_molecule` relabel by: the result is `r` renamed by position in `l`, onto the labels `0 … n-1`
(the same three clauses as `Renames.inj`/`nbrs`, `Renames.labels`, `Renames.range`). -/
theorem relabel_zipIdx_spec {r : Graph} {l : List Nat} (hw : r.WF) (hp : l.Perm r.labels) :
    Relabel (Graph.mapGet l.zipIdx) r (r.relabelCopy l.zipIdx) ∧
    (r.relabelCopy l.zipIdx).labels = r.labels.map (Graph.mapGet l.zipIdx) ∧
    (r.relabelCopy l.zipIdx).labels.Perm (List.range r.numberOfNodes) := by
  have := relabel_dict_spec hw (fl := l.zipIdx) (by rwa [List.zipIdx_map_fst])
    (by rw [List.zipIdx_map_snd]; exact List.nodup_range')
  rwa [List.zipIdx_map_snd, ← List.range_eq_range', hp.length_eq, r.length_labels] at this

theorem relabel_zipIdx_attrs {r : Graph} {l : List Nat} (hw : r.WF) (hp : l.Perm r.labels)
    {i a : Nat} (h : l[i]? = some a) : (r.relabelCopy l.zipIdx).attrs? i = r.attrs? a := by
  rw [← mapGet_zipIdx (hp.nodup_iff.mpr hw.nodup) h]
  exact (relabel_zipIdx_spec hw hp).1.attrs a (hp.mem_iff.mp (List.mem_of_getElem? h))

theorem relabel_zipIdx_adj {r : Graph} {l : List Nat} (hw : r.WF) (hp : l.Perm r.labels)
    {i a j b : Nat} (h : l[i]? = some a) (hb : l[j]? = some b) :
    (r.relabelCopy l.zipIdx).Adj i j ↔ r.Adj a b := by
  have hnd : l.Nodup := hp.nodup_iff.mpr hw.nodup
  have := (relabel_zipIdx_spec hw hp).1.toIso.adj_iff hw (hp.mem_iff.mp (List.mem_of_getElem? h))
    (hp.mem_iff.mp (List.mem_of_getElem? hb))
  rwa [mapGet_zipIdx hnd h, mapGet_zipIdx hnd hb] at this

/-- every bond of `h` is the image of a bond of `g`, so `h` has at most as many -/
theorem Iso.numberOfEdges_le {R : Atom → Atom → Prop} {f : Nat → Nat} {g h : Graph} (iso : Iso R f g h)
    (gw : g.WF) (gs : g.Simple) (hw : h.WF) (hs : h.Simple) : h.numberOfEdges ≤ g.numberOfEdges := by
  rw [← sortedEdges_length g, ← sortedEdges_length h,
    ← List.length_map (fun p => NxE.norm (f p.1, f p.2, {})) (as := sortedEdges g)]
  refine (sortedEdges_nodup h hw).length_le_of_subset ?_
  rintro ⟨x, y⟩ hxy
  obtain ⟨hlt, hadj⟩ := (sortedEdges_mem h hw hs x y).1 hxy
  obtain ⟨a, ha, rfl⟩ := iso.exists_preimage hadj.mem_left
  obtain ⟨b, hb, rfl⟩ := iso.exists_preimage (hadj.mem_right hw)
  have hadjg : g.Adj a b := (iso.adj_iff gw ha hb).1 hadj
  rcases Nat.lt_or_gt_of_ne (hadjg.ne gs) with hba | hab
  · exact List.mem_map.2 ⟨(b, a), (sortedEdges_mem g gw gs b a).2 ⟨hba, hadjg.symm gw⟩,
      NxE.norm_eq_iff.2 ⟨Nat.le_of_lt hlt, Or.inr ⟨rfl, rfl⟩⟩⟩
  · exact List.mem_map.2 ⟨(a, b), (sortedEdges_mem g gw gs a b).2 ⟨hab, hadjg⟩,
      NxE.norm_eq_iff.2 ⟨Nat.le_of_lt hlt, Or.inl ⟨rfl, rfl⟩⟩⟩

/-- neither has more bonds than the other, the renaming being invertible -/
theorem Iso.numberOfEdges {R : Atom → Atom → Prop} {f : Nat → Nat} {g h : Graph} (iso : Iso R f g h)
    (gw : g.WF) (gs : g.Simple) (hw : h.WF) (hs : h.Simple) : h.numberOfEdges = g.numberOfEdges := by
  obtain ⟨f', iso', -⟩ := iso.symm (R' := fun _ _ => True) (fun _ _ _ => trivial) gw
  exact Nat.le_antisymm (iso.numberOfEdges_le gw gs hw hs) (iso'.numberOfEdges_le hw hs gw gs)

end Tucan
