import TucanProofs.Lemmas.AstDenotation
import TucanProofs.Lemmas.RoundTrip
import TucanProofs.Lemmas.Canonical
import TucanProofs.Lemmas.Respell
import TucanProofs.Lemmas.MoreExamples
/-!
# C11 — any valid spelling of a molecule normalizes to its one canonical string

`norm = serialize ∘ canonicalize ∘ parse`.  An accepted string is turned by the tree listener into a
listener state (atoms of the formula, bonds, attribute records); `to_graph` builds the graph.  Two spellings
of the same molecule — tuples reordered, a tuple's endpoints swapped, a tuple repeated, attribute blocks
reordered or split (all with `π = id`), atoms renumbered inside an element block (`π` a permutation that
moves atoms only inside blocks) — give listener states that correspond under `π`; the graphs are then
`Iso SameIdent π` and C01 gives equal normal forms.
-/
namespace Tucan

/-- **Respelling.**  Spellings whose listener states correspond under a renumbering inside element blocks
normalize to the same string, for every oracle meeting the bliss contract. -/
theorem C11_respelling (O : CanonOracle) (st st' : ListenerState) (h : GoodState st) (h' : GoodState st')
    (π : Nat → Nat)
    (hlen : st'.atoms.length = st.atoms.length)
    (hπ : ∀ i, i < st.atoms.length → π i < st.atoms.length)
    (hinj : ∀ i j, i < st.atoms.length → j < st.atoms.length → π i = π j → i = j)
    (hatoms : ∀ i, i < st.atoms.length → (sortAtomsByZ st'.atoms)[π i]? = (sortAtomsByZ st.atoms)[i]?)
    (hextra : ∀ i, i < st.atoms.length →
      (extraOf st' (π i)).mass = (extraOf st i).mass ∧ (extraOf st' (π i)).rad = (extraOf st i).rad)
    (hbonds : ∀ i j, i < st.atoms.length → j < st.atoms.length →
      ((((i : Int), (j : Int)) ∈ st.bonds ∨ ((j : Int), (i : Int)) ∈ st.bonds) ↔
       (((π i : Int), (π j : Int)) ∈ st'.bonds ∨ ((π j : Int), (π i : Int)) ∈ st'.bonds)))
    (g g' : Graph) (hg : toGraph st = .ok g) (hg' : toGraph st' = .ok g') (hchem : g.Chem)
    (s s' : Str) (hs : tucanOf O.order g = .ok s) (hs' : tucanOf O.order g' = .ok s') : s = s' := by
  have iso := toGraph_respell st st' h h' π hlen hπ hinj hatoms hextra hbonds g g' hg hg'
  have r := toGraph_of_ok h hg
  have r' := toGraph_of_ok h' hg'
  exact tucan_invariant O iso hchem r.wf r.simple r'.wf r'.simple hs hs'

/-- **Respelling with atoms renumbered inside an element block, at the level of strings.**  The second string may
number the atoms differently: `π` (0-based positions; the indices written in the strings are positions + 1) is a
bijection of the positions that keeps every atom inside its element block (`sortedSymbols`: the formula's expansion
by non-decreasing atomic number), and the second tree's bonds and attribute settings are the first tree's carried
along by `π` (`SameMeaningUpTo π`).  Both strings normalize to the same string, for every oracle meeting the bliss
contract. -/
theorem C11_renumbered_strings (O : CanonOracle) (π : Nat → Nat) (s s' : Str) (toks toks' : List Tok)
    (ast ast' : Ast)
    (hl : lex s = some toks) (hsen : Sentence toks ast) (hl' : lex s' = some toks') (hsen' : Sentence toks' ast')
    (same : SameMeaningUpTo π ast ast') (g g' : Graph)
    (hg : graphFromTucan s = .ok g) (hg' : graphFromTucan s' = .ok g')
    (t t' : Str) (ht : tucanOf O.order g = .ok t) (ht' : tucanOf O.order g' = .ok t') : t = t' := by
  obtain ⟨iso, hchem, gw, gs, gw', gs'⟩ := respelling_iso_perm hl hsen hl' hsen' same hg hg'
  exact tucan_invariant O iso hchem gw gs gw' gs' ht ht'

/-- **Respelling, at the level of strings.**  Two accepted strings whose syntax trees say the same thing
(`SameMeaning`: the same formula; the same set of bonded pairs — tuples in any order, endpoints either way round,
a tuple any number of times; the same attribute settings — blocks in any order, split or merged, properties in
any order) normalize to the same string, for every oracle meeting the bliss contract.  (Renumbering atoms inside
an element block: `C11_renumbered_strings`.) -/
theorem C11_respelled_strings (O : CanonOracle) (s s' : Str) (toks toks' : List Tok) (ast ast' : Ast)
    (hl : lex s = some toks) (hsen : Sentence toks ast) (hl' : lex s' = some toks') (hsen' : Sentence toks' ast')
    (same : SameMeaning ast ast') (g g' : Graph)
    (hg : graphFromTucan s = .ok g) (hg' : graphFromTucan s' = .ok g')
    (t t' : Str) (ht : tucanOf O.order g = .ok t) (ht' : tucanOf O.order g' = .ok t') : t = t' :=
  C11_renumbered_strings O id s s' toks toks' ast ast' hl hsen hl' hsen' same.upTo_id g g' hg hg' t t' ht ht'

/-- non-vacuity of `C11_renumbered_strings`: `CH2O/(1-3)(3-4)/(1:mass=2)` and `CH2O/(4-3)(2-3)/(2:mass=2)` — the two
hydrogen atoms numbered the other way round, the deuterium label and its bond moving with them -/
example : SameMeaningUpTo RespellPermExample.swap01 RespellPermExample.astD RespellPermExample.astE ∧
    RespellPermExample.swap01 ≠ id ∧ RespellPermExample.astD.Valid ∧ RespellPermExample.astE.Valid :=
  RespellPermExample.sameMeaningUpTo_DE

/-- every accepted string denotes a molecule graph: the listener state the three listeners compute from the
string's own syntax tree (atoms from the formula, bonds from the tuples, attribute records from the blocks) is a
`GoodState`, `to_graph` of that state is the returned graph, and the graph is a well-formed simple graph of
chemistry-level atoms on the labels `0 … n-1`.  (What the graph is in terms of the tree: `C10_denotes`.) -/
theorem C11_accepted_string_denotes_molecule (s : Str) (g : Graph) (h : graphFromTucan s = .ok g) :
    (∃ toks ast st, lex s = some toks ∧ parseTucan toks = some ast ∧
      listenFormula ast.formula = .ok st.atoms ∧ listenTuples ast.tuples = .ok st.bonds ∧
      listenAttrs ast.attrs = .ok st.nodeAttrs ∧ toGraph st = .ok g ∧ GoodState st) ∧
    g.WF ∧ g.Simple ∧ g.MolAtoms := by
  obtain ⟨toks, ast, hl, hsen, d⟩ := graphFromTucan_sentence_denotes h
  have ok := Acc.sentence_ok hl hsen
  obtain ⟨h1, h2, h3⟩ := Acc.listeners_of_valid ok d.valid
  exact ⟨⟨toks, ast, ast.state, hl, (parseTucan_iff toks ast).2 hsen, h1, h2, h3, (valid_of_accepted hl hsen h).2,
    Acc.good_of_valid ok d.valid⟩, d.wf, d.simple, d.molAtoms ok.attrs⟩

/-- **Idempotence.**  `norm (norm s) = norm s`: the canonical string of any accepted string parses, and
normalizing it again returns the identical string. -/
theorem C11_idempotent (O : CanonOracle) (s0 : Str) (g : Graph) (hparse : graphFromTucan s0 = .ok g)
    (hsize : (natRepr (g.numberOfNodes + 1)).length ≤ intMaxStrDigits)
    (s : Str) (h : tucanOf O.order g = .ok s) :
    ∃ g2, graphFromTucan s = .ok g2 ∧ tucanOf O.order g2 = .ok s := by
  obtain ⟨gw, gs, gm, -⟩ := graphFromTucan_mol s0 g hparse
  exact pipeline_fixed_point O g gw gs gm hsize s h

/-- the contract the theorems quantify over is satisfiable -/
theorem C11_oracle_contract_inhabited : Nonempty CanonOracle := CanonOracle.nonempty

/-- non-vacuity: a concrete spelling is accepted by the front end -/
example : (parseTucan [.lit ['C'], .lit ['2'], .lit ['/'], .lit ['('], .lit ['2'], .lit ['-'], .lit ['1'], .lit [')']]).isSome = true := by
  exact Option.isSome_iff_exists.2
    ⟨_, (parseTucan_iff _ _).2 (MoreExamples.sentence_C2 (a := .lit ['2']) (b := .lit ['1']) rfl rfl)⟩

/-- non-vacuity of `C11_respelled_strings`: tuples reordered, one swapped, one repeated, the attribute block split -/
example : SameMeaning MoreExamples.astA MoreExamples.astB ∧ MoreExamples.astA.Valid ∧ MoreExamples.astB.Valid :=
  ⟨MoreExamples.sameMeaning_AB, MoreExamples.astA_valid, MoreExamples.astB_valid⟩

end Tucan
