import TucanProofs.Lemmas.RoundTrip
import TucanProofs.Examples
import TucanProofs.Lemmas.FilesMol
import TucanProofs.Lemmas.MoreExamples
import TucanProofs.Lemmas.IsoExample
/-!
# C02 — different molecules never share a TUCAN string

Equal strings parse to the same graph, and that graph is (by C03's reconstruction) both molecules under a
renaming; composing the two renamings gives a colour-preserving isomorphism.  The two oracles need not
satisfy the bliss contract — only return permutations — so distinctness does not rest on bliss being
right.  Together with C01 the string is a complete invariant.
-/
namespace Tucan

/-- **C02.**  If two molecules get the same string they are isomorphic as graphs coloured by element,
isotope mass and radical state (`Iso SameIdent π`). -/
theorem C02_injective (order₁ order₂ : Graph → List Nat)
    (hperm₁ : ∀ r : Graph, r.WF → (order₁ r).Perm r.labels) (hperm₂ : ∀ r : Graph, r.WF → (order₂ r).Perm r.labels)
    (g₁ g₂ : Graph) (hw₁ : g₁.WF) (hs₁ : g₁.Simple) (hm₁ : g₁.MolAtoms) (hw₂ : g₂.WF) (hs₂ : g₂.Simple) (hm₂ : g₂.MolAtoms)
    (hsize₁ : (natRepr (g₁.numberOfNodes + 1)).length ≤ intMaxStrDigits)
    (hsize₂ : (natRepr (g₂.numberOfNodes + 1)).length ≤ intMaxStrDigits)
    (s : Str) (h₁ : tucanOf order₁ g₁ = .ok s) (h₂ : tucanOf order₂ g₂ = .ok s) :
    ∃ π : Nat → Nat, Iso SameIdent π g₁ g₂ := by
  obtain ⟨H₁, τ₁, P₁⟩ := pipeline_parsedBack hperm₁ hw₁ hs₁ hm₁ hsize₁ h₁
  obtain ⟨H₂, τ₂, P₂⟩ := pipeline_parsedBack hperm₂ hw₂ hs₂ hm₂ hsize₂ h₂
  obtain rfl := Except.ok.inj (P₁.parse.symm.trans P₂.parse)
  obtain ⟨τ₂', iso₂', _⟩ := P₂.iso.symm @SameIdent.symm hw₂
  exact ⟨τ₂' ∘ τ₁, P₁.iso.trans @SameIdent.trans iso₂'⟩

/-- contrapositive reading: non-isomorphic molecules get different strings -/
theorem C02_distinct (order₁ order₂ : Graph → List Nat)
    (hperm₁ : ∀ r : Graph, r.WF → (order₁ r).Perm r.labels) (hperm₂ : ∀ r : Graph, r.WF → (order₂ r).Perm r.labels)
    (g₁ g₂ : Graph) (hw₁ : g₁.WF) (hs₁ : g₁.Simple) (hm₁ : g₁.MolAtoms) (hw₂ : g₂.WF) (hs₂ : g₂.Simple) (hm₂ : g₂.MolAtoms)
    (hsize₁ : (natRepr (g₁.numberOfNodes + 1)).length ≤ intMaxStrDigits)
    (hsize₂ : (natRepr (g₂.numberOfNodes + 1)).length ≤ intMaxStrDigits)
    (hnon : ¬ ∃ π : Nat → Nat, Iso SameIdent π g₁ g₂)
    (s₁ s₂ : Str) (h₁ : tucanOf order₁ g₁ = .ok s₁) (h₂ : tucanOf order₂ g₂ = .ok s₂) : s₁ ≠ s₂ := by
  intro he
  subst he
  exact hnon (C02_injective order₁ order₂ hperm₁ hperm₂ g₁ g₂ hw₁ hs₁ hm₁ hw₂ hs₂ hm₂ hsize₁ hsize₂ s₁ h₁ h₂)

/-- **Together with C01: a complete invariant.**  For an oracle meeting the bliss contract, two molecules get
the same string exactly when they are isomorphic as graphs coloured by element, isotope mass and radical. -/
theorem C02_complete_invariant (O : CanonOracle)
    (g₁ g₂ : Graph) (hw₁ : g₁.WF) (hs₁ : g₁.Simple) (hm₁ : g₁.MolAtoms) (hw₂ : g₂.WF) (hs₂ : g₂.Simple) (hm₂ : g₂.MolAtoms)
    (hsize₁ : (natRepr (g₁.numberOfNodes + 1)).length ≤ intMaxStrDigits)
    (hsize₂ : (natRepr (g₂.numberOfNodes + 1)).length ≤ intMaxStrDigits)
    (s₁ s₂ : Str) (h₁ : tucanOf O.order g₁ = .ok s₁) (h₂ : tucanOf O.order g₂ = .ok s₂) :
    s₁ = s₂ ↔ ∃ π : Nat → Nat, Iso SameIdent π g₁ g₂ := by
  constructor
  · intro he
    subst he
    exact C02_injective O.order O.order O.perm O.perm g₁ g₂ hw₁ hs₁ hm₁ hw₂ hs₂ hm₂ hsize₁ hsize₂ s₁ h₁ h₂
  · rintro ⟨π, iso⟩
    exact tucan_invariant O iso hm₁.chem hw₁ hs₁ hw₂ hs₂ h₁ h₂

/-- non-vacuity: a concrete molecule meets all hypotheses -/
example : exGraph.WF ∧ exGraph.Simple ∧ exGraph.MolAtoms ∧
    (natRepr (exGraph.numberOfNodes + 1)).length ≤ intMaxStrDigits :=
  ⟨exGraph_wf, exGraph_simple, exGraph_molAtoms, by decide⟩

/-- **C02 for graphs of molecules a molfile can state.**  `g₁`, `g₂` are graphs of conformant molecules `m₁`, `m₂`
(`IsGraphOf`: node `i` is the `i`-th listed atom, adjacency is the molecule's — what either reader returns for a
file stating the molecule).  If they get the same string, there is a renaming of the atoms of `m₁` onto those of
`m₂` that keeps element, isotope mass, radical and bonds. -/
theorem C02_graphs_of_molecules (order₁ order₂ : Graph → List Nat)
    (hperm₁ : ∀ r : Graph, r.WF → (order₁ r).Perm r.labels) (hperm₂ : ∀ r : Graph, r.WF → (order₂ r).Perm r.labels)
    (m₁ m₂ : Mol) (c₁ c₂ : List (Str × Str × Str)) (hc₁ : c₁.length = m₁.atoms.length) (hc₂ : c₂.length = m₂.atoms.length)
    (hm₁ : m₁.Conformant) (hm₂ : m₂.Conformant)
    (hsize₁ : (natRepr (m₁.atoms.length + 1)).length ≤ intMaxStrDigits)
    (hsize₂ : (natRepr (m₂.atoms.length + 1)).length ≤ intMaxStrDigits)
    (g₁ g₂ : Graph) (hg₁ : IsGraphOf g₁ m₁ c₁) (hg₂ : IsGraphOf g₂ m₂ c₂)
    (s : Str) (h₁ : tucanOf order₁ g₁ = .ok s) (h₂ : tucanOf order₂ g₂ = .ok s) :
    ∃ π : Nat → Nat, Iso SameIdent π g₁ g₂ := by
  obtain ⟨hw₁, hs₁, hmol₁, hsz₁⟩ := hg₁.roundtrip_domain hm₁ hc₁ hsize₁
  obtain ⟨hw₂, hs₂, hmol₂, hsz₂⟩ := hg₂.roundtrip_domain hm₂ hc₂ hsize₂
  exact C02_injective order₁ order₂ hperm₁ hperm₂ g₁ g₂ hw₁ hs₁ hmol₁ hw₂ hs₂ hmol₂ hsz₁ hsz₂ s h₁ h₂

/-- **C02 for files.**  Two molfile texts, each V3000 or V2000 with any header, line endings and spelling, that are
read as conformant molecules `m₁`, `m₂` (`ReadsAs`) and get the same TUCAN string state isomorphic molecules: the
graphs the reader returns are graphs of `m₁` and `m₂`, and some renaming between them keeps element, isotope mass,
radical and bonds.  Contrapositive: files stating non-isomorphic molecules never share a string. -/
theorem C02_files_same_string_isomorphic (order₁ order₂ : Graph → List Nat)
    (hperm₁ : ∀ r : Graph, r.WF → (order₁ r).Perm r.labels) (hperm₂ : ∀ r : Graph, r.WF → (order₂ r).Perm r.labels)
    (m₁ m₂ : Mol) (c₁ c₂ : List (Str × Str × Str)) (hc₁ : c₁.length = m₁.atoms.length) (hc₂ : c₂.length = m₂.atoms.length)
    (hm₁ : m₁.Conformant) (hm₂ : m₂.Conformant)
    (hsize₁ : (natRepr (m₁.atoms.length + 1)).length ≤ intMaxStrDigits)
    (hsize₂ : (natRepr (m₂.atoms.length + 1)).length ≤ intMaxStrDigits)
    (text₁ text₂ : Str) (r₁ : ReadsAs text₁ m₁ c₁) (r₂ : ReadsAs text₂ m₂ c₂)
    (g₁ g₂ : Graph) (hr₁ : graphFromMolfileText text₁ = .ok g₁) (hr₂ : graphFromMolfileText text₂ = .ok g₂)
    (s : Str) (h₁ : tucanOf order₁ g₁ = .ok s) (h₂ : tucanOf order₂ g₂ = .ok s) :
    IsGraphOf g₁ m₁ c₁ ∧ IsGraphOf g₂ m₂ c₂ ∧ ∃ π : Nat → Nat, Iso SameIdent π g₁ g₂ := by
  have hg₁ := r₁.isGraphOf hm₁.ok hc₁ hr₁
  have hg₂ := r₂.isGraphOf hm₂.ok hc₂ hr₂
  exact ⟨hg₁, hg₂, C02_graphs_of_molecules order₁ order₂ hperm₁ hperm₂ m₁ m₂ c₁ c₂ hc₁ hc₂ hm₁ hm₂ hsize₁ hsize₂
    g₁ g₂ hg₁ hg₂ s h₁ h₂⟩

/-- non-vacuity of the file-level statement: the V3000 text (CRLF) and the V2000 text (LF, no final newline) of
`FilesExample` are read as its molecule, which is conformant -/
example : FilesExample.mol.Conformant ∧
    ReadsAs (fileText ['\r', '\n'] FilesExample.lines3) FilesExample.mol FilesExample.coords3 ∧
    ReadsAs (fileTextNoTrail ['\n'] FilesExample.lines2) FilesExample.mol (v2Coords FilesExample.atoms2) :=
  ⟨MoreExamples.mol_conformant, FilesExample.texts_read.1, FilesExample.texts_read.2⟩

end Tucan
