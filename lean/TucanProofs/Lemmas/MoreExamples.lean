import TucanProofs.Lemmas.FilesExample
import TucanProofs.Lemmas.FilesPerm
import TucanProofs.Lemmas.FilesMol
import TucanProofs.Lemmas.Respell
/-!
# More concrete instances: the hypotheses of the file-level and string-level theorems are satisfiable

Witnesses for `Mol.Conformant`, for `SameMolecule` under a renaming that is not the identity, for `V3StatesIdx` with
atom indices that are neither consecutive nor ascending, for `Ast.Valid`, `SameMeaning` and `SameMeaningUpTo` under a
renumbering that is not the identity, and for `V2StatesRep` with an atom named more than once.
-/
namespace Tucan
namespace MoreExamples
open FilesExample

theorem mol_conformant : mol.Conformant :=
  { ok := mol_ok
    mass := by decide +kernel
    rad := by decide +kernel }

/-- the molecule of `FilesExample` listed in reverse: D, O(-), 13C; bonds renumbered, one written the other way round
and with another bond type -/
def molRev : Mol :=
  { atoms := [{ sym := ['D'], chg := 0, rad := 0, mass := 0 },
              { sym := ['O'], chg := -1, rad := 0, mass := 0 },
              { sym := ['C'], chg := 0, rad := 0, mass := 13 }],
    bonds := [{ a := 0, b := 1, t := 1 }, { a := 2, b := 1, t := 2 }] }

def rev (i : Nat) : Nat := 2 - i

theorem molRev_ok : molRev.Ok := by decide +kernel

theorem sameMolecule_rev : SameMolecule rev rev mol molRev :=
  { n := rfl
    maps := by decide +kernel
    atom := by decide +kernel
    bonds := by
      intro i j hi hj
      -- in the order `∀ i < 3, ∀ j < 3, …` the clause is decidable
      revert j hj
      revert i hi
      decide +kernel }

def atomsIdx : List AtomEntry :=
  [.real (cs "7") 7 ['C'] (cs "0") (cs "0") (cs "0") (cs "0") [.mass 13],
   .real (cs "3") 3 ['O'] (cs "1.5") (cs "0") (cs "0") (cs "0") [.chg (-1)],
   .real (cs "12") 12 ['D'] (cs "2.5") (cs "0") (cs "0") (cs "0") []]

def bondsIdx : List BondEntry :=
  [{ idxTok := cs "1", btype := 1, a1 := 7, a2 := 3, pre := [], ends := none, post := [] },
   { idxTok := cs "2", btype := 1, a1 := 3, a2 := 12, pre := [], ends := none, post := [] }]

theorem v3StatesIdx : V3StatesIdx mol [7, 3, 12] coords3 atomsIdx bondsIdx :=
  { nIdx := rfl
    distinct := by decide
    nAtoms := ⟨rfl, rfl⟩
    nBonds := rfl
    atom := by decide +kernel
    bond := by decide +kernel }

/-- `C2/(a-b)` by the grammar: `C` counted `2`, no further element, one tuple -/
theorem sentence_C2 {a b : Tok} (ha : isGtZero a = true) (hb : isGtZero b = true) :
    Sentence [.lit ['C'], .lit ['2'], .lit ['/'], .lit ['('], a, .lit ['-'], b, .lit [')']]
      ⟨[(['C'], some ['2'])], [(a.text, b.text)], []⟩ := by
  have hsen : Sentence ([.lit ['C'], .lit ['2']] ++ tk "/" :: [tk "(", a, tk "-", b, tk ")"]) _ :=
    .plain (.withCarbonCounted (ts := []) withCarbonOrder_eq rfl (.done _)) (.cons ha hb .nil)
  -- (stated with `tk "/"` … and rewritten: unifying `.lit ['/']` with `tk "/"` makes the elaborator decode the literal)
  simp only [Sentence.tk_slash, Sentence.tk_lparen, Sentence.tk_minus, Sentence.tk_rparen, List.cons_append,
    List.nil_append] at hsen
  exact hsen

/-- the tree of `CH2O/(1-3)(2-3)(3-4)/(3:mass=13,rad=2)` -/
def astA : Ast :=
  { formula := [(['C'], none), (['H'], some (cs "2")), (['O'], none)],
    tuples := [(cs "1", cs "3"), (cs "2", cs "3"), (cs "3", cs "4")],
    attrs := [(cs "3", [(cs "mass", cs "13"), (cs "rad", cs "2")])] }

/-- the same molecule respelled: tuples reordered, one written the other way round, one repeated, the attribute
block split and reordered -/
def astB : Ast :=
  { formula := [(['C'], none), (['H'], some (cs "2")), (['O'], none)],
    tuples := [(cs "4", cs "3"), (cs "1", cs "3"), (cs "2", cs "3"), (cs "3", cs "1")],
    attrs := [(cs "3", [(cs "rad", cs "2")]), (cs "3", [(cs "mass", cs "13")])] }

theorem astA_valid : astA.Valid := by decide +kernel

theorem astB_valid : astB.Valid := by decide +kernel

theorem sameMeaning_AB : SameMeaning astA astB :=
  .of_lists rfl (by decide +kernel) (by decide +kernel) (by decide +kernel) (by decide +kernel)

end MoreExamples

namespace RespellPermExample

/-- `CH2O/(1-3)(3-4)/(1:mass=2)`: atoms 1, 2 are H, 3 is C, 4 is O; the deuterium is bonded to carbon -/
def astD : Ast :=
  { formula := [(['C'], none), (['H'], some (cs "2")), (['O'], none)],
    tuples := [(cs "1", cs "3"), (cs "3", cs "4")],
    attrs := [(cs "1", [(cs "mass", cs "2")])] }

/-- the same molecule with the two hydrogen atoms numbered the other way round: `CH2O/(4-3)(2-3)/(2:mass=2)` -/
def astE : Ast :=
  { formula := [(['C'], none), (['H'], some (cs "2")), (['O'], none)],
    tuples := [(cs "4", cs "3"), (cs "2", cs "3")],
    attrs := [(cs "2", [(cs "mass", cs "2")])] }

def swap01 (i : Nat) : Nat := if i = 0 then 1 else if i = 1 then 0 else i

/-- non-vacuity: a renumbering that is not the identity -/
theorem sameMeaningUpTo_DE : SameMeaningUpTo swap01 astD astE ∧ swap01 ≠ id ∧ astD.Valid ∧ astE.Valid :=
  have hs : astD.sortedSymbols = [['H'], ['H'], ['C'], ['O']] :=
    Ast.sortedSymbols_eq (by decide +kernel) (by decide +kernel) (by decide +kernel)
  ⟨.of_lists rfl (by decide +kernel) (by decide +kernel) (hs ▸ by decide +kernel) (by decide +kernel)
      (by decide +kernel) (by decide +kernel),
    fun h => absurd (congrFun h 0) (by decide), by decide +kernel, by decide +kernel⟩

end RespellPermExample

end Tucan

namespace Tucan

def repExampleMol : Mol := { atoms := [{ sym := ['C'], chg := 0, rad := 0, mass := 13 }], bonds := [] }
def repExampleAtoms : List V2Atom :=
  [{ fx := cs "    0.0000", fy := cs "    0.0000", fz := cs "    0.0000", sym := ['C'], code := 3, z := 6, tail := [] }]
def repExampleBlock : List BlockLine :=
  [.assign .mass [(0, 12)], .assign .chg [(0, 2)], .assign .mass [(0, 13)], .other, .assign .chg [(0, 0)]]

/-- non-vacuity with a genuine repetition: `[13C]` stated by `M  ISO` entries `(1, 12)` then `(1, 13)`, and a
charge first given as 2, then revoked by an entry 0 (the `M  CHG` line is present, so the decoy charge code 3 on
the atom line is superseded) -/
theorem repExample : V2StatesRep repExampleMol repExampleAtoms [] repExampleBlock :=
  { nAtoms := rfl
    nBonds := rfl
    sym := by decide +kernel
    chgRad := .inr ⟨rfl, by decide +kernel, by decide +kernel⟩
    iso := by decide +kernel
    bond := by decide +kernel }

end Tucan
