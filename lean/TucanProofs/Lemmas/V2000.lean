import TucanModel.Molfile
import TucanProofs.Lemmas.Basics.Text
import TucanProofs.Lemmas.Basics.AList
import TucanProofs.Lemmas.Basics.PyM
/-!
# The V2000 reader: fixed columns, property lines, supersession
-/
namespace Tucan

/-- `"%3d" % i` (for values whose text has at most three characters) -/
def pad3 (i : Int) : Str := List.replicate (3 - (intRepr i).length) ' ' ++ intRepr i

namespace V2000

theorem strip_replicate_append (k : Nat) (t : Str) : strip (List.replicate k ' ' ++ t) = strip t := by
  unfold strip
  rw [List.dropWhile_append_of_pos (replicate_blank_all (by decide) k)]

theorem pad3_length (i : Int) (h : (intRepr i).length ≤ 3) : (pad3 i).length = 3 := by
  simp only [pad3, List.length_append, List.length_replicate]
  omega

/-- one entry of a property line: ` aaa vvv` -/
def enc (e : Int × Int) : Str := ' ' :: pad3 e.1 ++ ' ' :: pad3 e.2

end V2000
open V2000

theorem toIntV2000_pad3 (i : Int) (h : (intRepr i).length ≤ 3) : toIntV2000 (pad3 i) = .ok i := by
  have hs : stripSp (pad3 i) = intRepr i :=
    stripSp_replicate_append _ _ (not_mem_intRepr (by decide) (by decide) i)
  have hne : (intRepr i).isEmpty = false := by simpa using intRepr_ne_nil i
  rw [toIntV2000, hs, hne, pad3, pyInt_replicate_append, pyInt_intRepr i (by simp only [intMaxStrDigits]; omega)]
  rfl

theorem toIntV2000_col (cols : List Str) (i : Nat) (v : Int) (hf : cols[i]? = some (pad3 v))
    (hv : (intRepr v).length ≤ 3) (a b : Nat) (ha : a = (cols.take i).flatten.length) (hb : b = a + 3) :
    toIntV2000 (slice cols.flatten a b) = .ok v := by
  rw [slice_col cols i _ hf a b ha (by rw [pad3_length v hv, hb]), toIntV2000_pad3 v hv]

/-- the table of charge codes has the keys 1 … 7 -/
theorem chargeCode_out_of_range {c : Int} (h : c < 0 ∨ 7 < c) : chargeCode c = (none, none) := by
  rw [chargeCode, alookup_eq_none_iff.2 (by
    simp only [Tables.v2000Charges, List.map_cons, List.map_nil, List.mem_cons, List.not_mem_nil, or_false]; omega)]
  rfl

theorem toIntV2000_blank (k : Nat) : toIntV2000 (List.replicate k ' ') = .ok 0 := by
  have : stripSp (List.replicate k ' ') = [] := stripSp_append_replicate [] k (by simp)
  simp only [toIntV2000, this]
  rfl

/-- `M  XXXnn8 aaa vvv aaa vvv …`: the tag, the number of entries, the entries (each as `V2000.enc` lays it out) -/
def propLine (tag : Str) (entries : List (Int × Int)) : Str :=
  cs "M  " ++ tag ++ pad3 entries.length ++ (entries.map fun e => ' ' :: pad3 e.1 ++ ' ' :: pad3 e.2).flatten

namespace V2000

/-- both numbers of an entry fit their three columns (written out in `EntriesFit` and in C08's statements) -/
def Fit (e : Int × Int) : Prop := (intRepr e.1).length ≤ 3 ∧ (intRepr e.2).length ≤ 3

theorem enc_length (e : Int × Int) (h : Fit e) : (enc e).length = 8 := by
  simp only [enc, List.length_cons, List.length_append, pad3_length _ h.1, pad3_length _ h.2]

/-- the body of the entry loop -/
def avStep (line : Str) (atoms : List (Int × Atom)) (acc : List (Int × Int)) (i : Nat) : PyM (List (Int × Int)) := do
  let st := 10 + i * 8
  let idx ← toIntV2000 (slice line st (st + 3))
  let value ← toIntV2000 (slice line (st + 4) (st + 7))
  if (alookup (idx - 1) atoms).isNone then molErr
  pure (acc ++ [(idx - 1, value)])

theorem parseAtomValueAssignments_eq (line : Str) (atoms : List (Int × Atom)) :
    parseAtomValueAssignments line atoms =
      toIntV2000 (slice line 6 9) >>= fun n => (List.range n.toNat).foldlM (avStep line atoms) [] := rfl

theorem avStep_entry (pre rest : Str) (i : Nat) (hpre : pre.length = 9 + i * 8) (e : Int × Int) (he : Fit e)
    (atoms : List (Int × Atom)) (hex : (alookup (e.1 - 1) atoms).isSome) (acc : List (Int × Int)) :
    avStep (pre ++ enc e ++ rest) atoms acc i = .ok (acc ++ [(e.1 - 1, e.2)]) := by
  -- the reader's `10 + i * 8`: an entry starts with a blank
  let cols : List Str := [pre, [' '], pad3 e.1, [' '], pad3 e.2, rest]
  have e0 : pre ++ enc e ++ rest = cols.flatten := by simp [enc, cols]
  have h1 := toIntV2000_col cols 2 e.1 rfl he.1 (10 + i * 8) (10 + i * 8 + 3) (by simp +arith [cols, hpre]) rfl
  have h2 := toIntV2000_col cols 4 e.2 rfl he.2 (10 + i * 8 + 4) (10 + i * 8 + 7)
    (by simp +arith [cols, hpre, pad3_length _ he.1]) rfl
  rw [avStep, e0, h1, PyM.ok_bind, h2, PyM.ok_bind, Option.isNone_eq_false_iff.2 hex]
  rfl

theorem avLoop (atoms : List (Int × Atom)) : ∀ (todo : List (Int × Int)) (pre : Str) (i : Nat) (acc : List (Int × Int)),
    pre.length = 9 + i * 8 → (∀ e ∈ todo, Fit e) → (∀ e ∈ todo, (alookup (e.1 - 1) atoms).isSome) →
    (List.range' i todo.length).foldlM (avStep (pre ++ (todo.map enc).flatten) atoms) acc
      = .ok (acc ++ todo.map fun e => (e.1 - 1, e.2)) := by
  intro todo
  induction todo with
  | nil => intro pre i acc _ _ _; simp
  | cons e todo ih =>
    intro pre i acc hpre hfit hex
    obtain ⟨he, hfit⟩ := List.forall_mem_cons.1 hfit
    obtain ⟨hx, hex⟩ := List.forall_mem_cons.1 hex
    have := ih (pre ++ enc e) (i + 1) (acc ++ [(e.1 - 1, e.2)])
      (by rw [List.length_append, hpre, enc_length e he]; omega) hfit hex
    rw [List.map_cons, List.flatten_cons, ← List.append_assoc, List.length_cons, List.range'_succ, List.foldlM_cons,
      avStep_entry pre _ i hpre e he atoms hx acc, PyM.ok_bind, this, List.map_cons, List.append_assoc,
      List.singleton_append]

end V2000

/-- **Property lines are decoded entry by entry, for any number of entries per line** (the format allows
up to eight): every `(atom, value)` pair comes back, atom indices 0-based, in order. -/
theorem parseAtomValueAssignments_propLine (tag : Str) (htag : tag.length = 3) (entries : List (Int × Int))
    (hn : (intRepr (entries.length : Int)).length ≤ 3)
    (hfit : ∀ e ∈ entries, Fit e)
    (atoms : List (Int × Atom)) (hex : ∀ e ∈ entries, (alookup (e.1 - 1) atoms).isSome) :
    parseAtomValueAssignments (propLine tag entries) atoms = .ok (entries.map fun e => (e.1 - 1, e.2)) := by
  have hM : (cs "M  ").length = 3 := by decide +kernel
  have hH : (cs "M  " ++ tag ++ pad3 entries.length).length = 9 := by
    simp only [List.length_append, htag, pad3_length _ hn, hM]
  let cols : List Str := [cs "M  ", tag, pad3 entries.length, (entries.map enc).flatten]
  have e1 : propLine tag entries = cols.flatten := by
    simp only [propLine, cols, List.flatten_cons, List.flatten_nil, List.append_nil, List.append_assoc]
    rfl
  have hn' := toIntV2000_col cols 2 _ rfl hn 6 9 (by simp [cols, htag, hM]) rfl
  rw [← e1] at hn'
  rw [parseAtomValueAssignments_eq, hn', PyM.ok_bind, Int.toNat_natCast, List.range_eq_range']
  exact avLoop atoms entries _ 0 [] hH hfit hex

/-- the last value a list of property lines assigns to atom `k` under `key` (later entries override) -/
def lastAssigned (assignments : List (PropKey × Int × Int)) (key : PropKey) (k : Int) : Option Int :=
  ((assignments.filter fun a => a.1 == key && a.2.1 == k).getLast?).map (·.2.2)

/-- one parsed property-block line: either assignments under a key, an unrelated line, or the end marker -/
inductive BlockLine
  | assign (key : PropKey) (entries : List (Int × Int))   -- 0-based atom index, value
  | other
  deriving Repr

/-- the text of a block line; `other` lines are any lines that are not `M  CHG…`, `M  RAD…`, `M  ISO…`,
`M  END` -/
def BlockLine.Renders (atoms : List (Int × Atom)) : BlockLine → Str → Prop
  | .assign key entries, line =>
      (match key with
        | .chg => startsWith line (cs "M  CHG") = true
        | .rad => startsWith line (cs "M  RAD") = true ∧ startsWith line (cs "M  CHG") = false
        | .mass => startsWith line (cs "M  ISO") = true ∧ startsWith line (cs "M  CHG") = false ∧
                   startsWith line (cs "M  RAD") = false) ∧
      parseAtomValueAssignments line atoms = .ok entries
  | .other, line =>
      startsWith line (cs "M  CHG") = false ∧ startsWith line (cs "M  RAD") = false ∧
      startsWith line (cs "M  ISO") = false ∧ line ≠ cs "M  END"

/-- the lines of the property block render the block lines, one to one -/
inductive RendersAll (atoms : List (Int × Atom)) : List BlockLine → List Str → Prop
  | nil : RendersAll atoms [] []
  | cons {b l bs ls} : BlockLine.Renders atoms b l → RendersAll atoms bs ls → RendersAll atoms (b :: bs) (l :: ls)

def allAssignments (bl : List BlockLine) : List (PropKey × Int × Int) :=
  bl.flatMap fun
    | .assign key entries => entries.map fun e => (key, e.1, e.2)
    | .other => []

def hasChgOrRad (bl : List BlockLine) : Bool :=
  bl.any fun
    | .assign .chg _ => true
    | .assign .rad _ => true
    | _ => false

/-- what the property block does to the atom dictionary (`parseAttributeBlock_spec`) -/
def applyBlock (bl : List BlockLine) (atoms : List (Int × Atom)) : List (Int × Atom) :=
  atoms.map fun (k, a) =>
    let asg := allAssignments bl
    let base := if hasChgOrRad bl then { a with chg := none, rad := none } else a
    (k, { base with
      chg := nonZero (lastAssigned asg .chg k) <|> base.chg,
      rad := nonZero (lastAssigned asg .rad k) <|> base.rad,
      mass := nonZero (lastAssigned asg .mass k) <|> base.mass })

theorem allAssignments_cons (b : BlockLine) (bs : List BlockLine) :
    allAssignments (b :: bs) = allAssignments [b] ++ allAssignments bs := by simp [allAssignments]

theorem hasChgOrRad_cons (b : BlockLine) (bs : List BlockLine) :
    hasChgOrRad (b :: bs) = (hasChgOrRad [b] || hasChgOrRad bs) := by simp [hasChgOrRad]

namespace V2000

def Extra.get (e : Extra) : PropKey → Option Int
  | .chg => e.chg
  | .rad => e.rad
  | .mass => e.mass

def fieldOf (ex : List (Int × Extra)) (key : PropKey) (k : Int) : Option Int :=
  (alookup k ex).bind (Extra.get · key)

/-- one dictionary update of `_merge_tuples_into_additional_attributes` -/
def merge1 (ex : List (Int × Extra)) (a : PropKey × Int × Int) : List (Int × Extra) :=
  ainsert a.2.1 (((alookup a.2.1 ex).getD {}).set a.1 a.2.2) ex

def mergeAll (asg : List (PropKey × Int × Int)) (ex : List (Int × Extra)) : List (Int × Extra) :=
  asg.foldl merge1 ex

theorem mergeTuples_eq (t : List (Int × Int)) (key : PropKey) (ex : List (Int × Extra)) :
    mergeTuples t key ex = mergeAll (t.map fun e => (key, e.1, e.2)) ex := by
  simp only [mergeTuples, mergeAll, List.foldl_map]
  rfl

theorem mergeAll_append (a b : List (PropKey × Int × Int)) (ex : List (Int × Extra)) :
    mergeAll (a ++ b) ex = mergeAll b (mergeAll a ex) := by
  simp only [mergeAll, List.foldl_append]

theorem Extra.get_set (e : Extra) (key' key : PropKey) (v : Int) :
    Extra.get (e.set key' v) key = if key' == key then some v else Extra.get e key := by
  cases key' <;> cases key <;> rfl

theorem fieldOf_merge1 (ex : List (Int × Extra)) (a : PropKey × Int × Int) (key : PropKey) (k : Int) :
    fieldOf (merge1 ex a) key k = if (a.1 == key && a.2.1 == k) = true then some a.2.2 else fieldOf ex key k := by
  obtain ⟨key', i, v⟩ := a
  simp only [fieldOf, merge1, alookup_ainsert]
  by_cases h : i = k
  · subst h
    simp only [beq_self_eq_true, if_true, Option.bind_some, Bool.and_true, Extra.get_set]
    -- an atom without a record starts from the empty one, all of whose fields are none
    cases alookup i ex with
    | some e => rfl
    | none => cases key <;> rfl
  · have : (i == k) = false := by simpa using h
    simp only [this, Bool.false_eq_true, if_false, Bool.and_false]

theorem lastAssigned_concat (asg : List (PropKey × Int × Int)) (a : PropKey × Int × Int) (key : PropKey) (k : Int) :
    lastAssigned (asg ++ [a]) key k =
      if (a.1 == key && a.2.1 == k) = true then some a.2.2 else lastAssigned asg key k := by
  unfold lastAssigned
  rw [List.filter_append, List.getLast?_append]
  by_cases h : (a.1 == key && a.2.1 == k) = true
  · simp [h]
  · simp [h]

/-- the dictionary records, for every atom and key, the last value assigned so far -/
theorem fieldOf_mergeAll : ∀ (b a : List (PropKey × Int × Int)) (ex : List (Int × Extra)),
    (∀ key k, fieldOf ex key k = lastAssigned a key k) →
    ∀ key k, fieldOf (mergeAll b ex) key k = lastAssigned (a ++ b) key k := by
  intro b
  induction b with
  | nil => intro a ex h; simpa [mergeAll] using h
  | cons x b ih =>
    intro a ex h
    have := ih (a ++ [x]) (merge1 ex x) fun key k => by rw [fieldOf_merge1, lastAssigned_concat, h key k]
    simpa [mergeAll] using this

theorem startsWith_END :
    startsWith (cs "M  END") (cs "M  CHG") = false ∧ startsWith (cs "M  END") (cs "M  RAD") = false ∧
    startsWith (cs "M  END") (cs "M  ISO") = false := by
  simp (disch := rfl) only [cs, toList_lit]
  decide +kernel

/-- one line of the scan: what it assigns is merged, and an `M  CHG` or `M  RAD` line sets the flag -/
theorem scan_cons {atoms : List (Int × Atom)} {b : BlockLine} {l : Str} (hr : b.Renders atoms l) (rest : List Str)
    (ex : List (Int × Extra)) (flag : Bool) :
    parseAttributeBlock.scan atoms (l :: rest) ex flag =
      parseAttributeBlock.scan atoms rest (mergeAll (allAssignments [b]) ex) (flag || hasChgOrRad [b]) := by
  rw [parseAttributeBlock.scan.eq_2]
  cases b with
  | other =>
    obtain ⟨h1, h2, h3, h4⟩ := hr
    simp [h1, h2, h3, h4, allAssignments, hasChgOrRad, mergeAll]
  | assign key entries =>
    obtain ⟨hk, hp⟩ := hr
    cases key with
    | chg => simp [hk, hp, mergeTuples_eq, allAssignments, hasChgOrRad]
    | rad => simp [hk.1, hk.2, hp, mergeTuples_eq, allAssignments, hasChgOrRad]
    | mass => simp [hk.1, hk.2.1, hk.2.2, hp, mergeTuples_eq, allAssignments, hasChgOrRad]

theorem scan_spec (atoms : List (Int × Atom)) (tail : List Str) (bl : List BlockLine) (lines : List Str)
    (h : RendersAll atoms bl lines) : ∀ (ex : List (Int × Extra)) (flag : Bool),
    parseAttributeBlock.scan atoms (lines ++ cs "M  END" :: tail) ex flag =
      .ok (mergeAll (allAssignments bl) ex, flag || hasChgOrRad bl) := by
  induction h with
  | nil =>
    intro ex flag
    rw [List.nil_append, parseAttributeBlock.scan.eq_2]
    simp [startsWith_END, mergeAll, allAssignments, hasChgOrRad]
  | cons hr _ ih =>
    intro ex flag
    rw [List.cons_append, scan_cons hr, ih, ← mergeAll_append, ← allAssignments_cons, Bool.or_assoc,
      ← hasChgOrRad_cons]

end V2000

/-- **The property block.**  Given the atoms of the atom block and a property block consisting of any
mixture of `M  CHG` / `M  RAD` / `M  ISO` lines and unrelated lines followed by `M  END` (and anything
after it), the reader returns, for every atom `k`:
* charge / radical: if any `M  CHG` or `M  RAD` line is present, ALL atom-block charge codes are
  superseded: the value is the last non-zero value assigned to `k` by such a line, else none; if no such
  line is present, the atom-block value stays;
* mass: the last non-zero value an `M  ISO` line assigns to `k`, else the atom-block value (the mass of a
  D or T symbol) — an `M  ISO` line for *another* atom does not touch it. -/
theorem parseAttributeBlock_spec (atoms : List (Int × Atom)) (bl : List BlockLine) (lines : List Str) (tail : List Str)
    (hlines : RendersAll atoms bl lines) :
    parseAttributeBlock (lines ++ cs "M  END" :: tail) atoms = .ok (applyBlock bl atoms) := by
  have hfield : ∀ (k : Int) (a : Atom),
      (match alookup k (mergeAll (allAssignments bl) []) with
        | none => (k, a)
        | some e => (k, { a with chg := nonZero e.chg <|> a.chg, rad := nonZero e.rad <|> a.rad,
                                 mass := nonZero e.mass <|> a.mass })) =
      (k, { a with
        chg := nonZero (lastAssigned (allAssignments bl) .chg k) <|> a.chg,
        rad := nonZero (lastAssigned (allAssignments bl) .rad k) <|> a.rad,
        mass := nonZero (lastAssigned (allAssignments bl) .mass k) <|> a.mass }) := by
    intro k a
    have h := fun key => (fieldOf_mergeAll (allAssignments bl) [] [] (fun _ _ => rfl) key k).symm
    rw [List.nil_append] at h
    rw [h, h, h, fieldOf, fieldOf, fieldOf]
    -- without a record nothing is assigned and the atom stays as it is (structure eta)
    cases alookup k (mergeAll (allAssignments bl) []) with
    | none => rfl
    | some e => rfl
  unfold parseAttributeBlock applyBlock
  rw [scan_spec atoms tail bl lines hlines [] false, PyM.ok_bind]
  refine congrArg Except.ok ?_
  cases hasChgOrRad bl
  · exact List.map_congr_left fun ⟨k, a⟩ _ => hfield k a
  · exact (List.map_map ..).trans (List.map_congr_left fun ⟨k, a⟩ _ => hfield k _)

end Tucan
