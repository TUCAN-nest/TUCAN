import TucanProofs.Lemmas.Splice
import TucanProofs.Lemmas.Tables
import TucanProofs.Lemmas.Basics.Text
import TucanProofs.Lemmas.Basics.PyM
/-!
# Line machinery shared by the molfile readers and the writer

The reader's tokenizer, `line.rstrip().split(" ")` without the empty pieces, inverts joining blank-free tokens by
runs of blanks; the keyword scan of the atom-line reader: which tokens it passes over and what a `KEY=value` token
contributes; what the readers need of an atom symbol.
-/
namespace Tucan
/-- tokens joined by runs of blanks: `gaps[i] + 1` of them in front of token `i + 1` (one where `gaps` has run out),
`lead` in front of the first token and `trail` behind the last -/
def joinBlanks (lead : Nat) (trail : Nat) : List Str → List Nat → Str
  | [], _ => List.replicate (lead + trail) ' '
  | [t], _ => List.replicate lead ' ' ++ t ++ List.replicate trail ' '
  | t :: ts, gaps =>
    List.replicate lead ' ' ++ t ++ joinBlanks ((gaps.headD 0) + 1) trail ts gaps.tail

namespace LineM

/-- `tokenizeLine` without its `rstrip` -/
def tk (s : Str) : List Str := (splitOnChar ' ' s).filter (· != [])

theorem tk_nil : tk [] = [] := by simp [tk, splitOnChar]

theorem tk_append_blank (a b : Str) : tk (a ++ ' ' :: b) = tk a ++ tk b := by
  simp only [tk, splitOnChar_append_sep, List.filter_append]

theorem tk_cons_blank (s : Str) : tk (' ' :: s) = tk s := tk_append_blank [] s

theorem tk_replicate (k : Nat) (s : Str) : tk (List.replicate k ' ' ++ s) = tk s := by
  induction k with
  | zero => simp
  | succ k ih => rw [List.replicate_succ, List.cons_append, tk_cons_blank, ih]

theorem tk_tok {t : Str} (ht : IsToken t) : tk t = [t] := by
  have hb : ' ' ∉ t := fun hm => absurd (ht.2 ' ' hm) (by decide)
  simp only [tk, splitOnChar_of_not_mem ' ' t hb, List.filter_cons]
  have : (t != []) = true := by simpa using ht.1
  simp [this]

theorem tk_append_replicate (x : Str) (k : Nat) : tk (x ++ List.replicate k ' ') = tk x := by
  cases k with
  | zero => simp
  | succ k =>
    have := tk_replicate k []
    rw [List.append_nil, tk_nil] at this
    rw [List.replicate_succ, tk_append_blank, this, List.append_nil]

theorem joinBlanks_succ (lead trail : Nat) (toks : List Str) (gaps : List Nat) :
    joinBlanks (lead + 1) trail toks gaps = ' ' :: joinBlanks lead trail toks gaps := by
  match toks with
  | [] => simp [joinBlanks, Nat.add_right_comm, List.replicate_succ]
  | [_] => simp [joinBlanks, List.replicate_succ]
  | _ :: _ :: _ => simp [joinBlanks, List.replicate_succ]

theorem tk_joinBlanks (toks : List Str) (h : ∀ t ∈ toks, IsToken t) (lead trail : Nat) (gaps : List Nat) :
    tk (joinBlanks lead trail toks gaps) = toks := by
  fun_induction joinBlanks lead trail toks gaps with
  | case1 lead gaps => rw [← List.nil_append (List.replicate _ _), tk_append_replicate, tk_nil]
  | case2 lead t gaps =>
    simp only [List.append_assoc, tk_replicate, tk_append_replicate, tk_tok (h t (by simp))]
  | case3 lead t ts gaps _ ih =>
    have ih := ih fun x hx => h x (by simp [hx])
    rw [joinBlanks_succ, tk_cons_blank] at ih
    rw [joinBlanks_succ, List.append_assoc, tk_replicate, tk_append_blank, tk_tok (h t (by simp)), ih]
    rfl

/-- where all white space is blanks, the trailing run that `rstrip` removes yields no token anyway -/
theorem tk_rstrip (s : Str) (h : ∀ c ∈ s, isPySpace c = true → c = ' ') : tk (rstrip s) = tk s := by
  obtain ⟨k, e⟩ : ∃ k, s = rstrip s ++ List.replicate k ' ' := by
    refine ⟨(s.reverse.takeWhile isPySpace).length, ?_⟩
    have hw : List.replicate (s.reverse.takeWhile isPySpace).length ' ' = (s.reverse.takeWhile isPySpace).reverse := by
      refine (List.eq_replicate_iff.2 ⟨by simp, fun c hc => ?_⟩).symm
      have hc := List.mem_reverse.1 hc
      exact h c (List.mem_reverse.1 (List.takeWhile_subset _ hc)) (List.all_eq_true.1 List.all_takeWhile c hc)
    rw [hw, rstrip, dropWhileEnd, ← List.reverse_append, List.takeWhile_append_dropWhile, List.reverse_reverse]
  exact ((congrArg tk e).trans (tk_append_replicate _ k)).symm

theorem mem_joinBlanks {c : Char} (toks : List Str) (lead trail : Nat) (gaps : List Nat) :
    c ∈ joinBlanks lead trail toks gaps → c = ' ' ∨ ∃ t ∈ toks, c ∈ t := by
  fun_induction joinBlanks lead trail toks gaps with
  | case1 lead gaps => exact fun h => .inl (List.eq_of_mem_replicate h)
  | case2 lead t gaps =>
    simp only [List.mem_append, List.mem_replicate]
    rintro ((⟨-, rfl⟩ | h) | ⟨-, rfl⟩)
    · exact .inl rfl
    · exact .inr ⟨t, by simp, h⟩
    · exact .inl rfl
  | case3 lead t ts gaps _ ih =>
    simp only [List.mem_append, List.mem_replicate]
    rintro ((⟨-, rfl⟩ | h) | h)
    · exact .inl rfl
    · exact .inr ⟨t, by simp, h⟩
    · rcases ih h with h | ⟨u, hu, hc⟩
      · exact .inl h
      · exact .inr ⟨u, List.mem_cons_of_mem _ hu, hc⟩

theorem joinBlanks_blanksOnly {toks : List Str} (h : ∀ t ∈ toks, IsToken t) (lead trail : Nat) (gaps : List Nat) :
    ∀ c ∈ joinBlanks lead trail toks gaps, isPySpace c = true → c = ' ' := by
  intro c hc hs
  rcases mem_joinBlanks toks lead trail gaps hc with rfl | ⟨t, ht, hct⟩
  · rfl
  · rw [(h t ht).2 c hct] at hs; cases hs

end LineM
open LineM

theorem tokenizeLine_joinBlanks (toks : List Str) (h : ∀ t ∈ toks, IsToken t) (lead trail : Nat) (gaps : List Nat) :
    tokenizeLine (joinBlanks lead trail toks gaps) = toks := by
  show tk (rstrip (joinBlanks lead trail toks gaps)) = toks
  rw [tk_rstrip _ (joinBlanks_blanksOnly h lead trail gaps), tk_joinBlanks toks h]

theorem joinSp_eq_joinBlanks (toks : List Str) : joinSp toks = joinBlanks 0 0 toks [] := by
  fun_induction joinSp toks with
  | case1 => rfl
  | case2 t => simp [joinBlanks]
  | case3 t ts hne ih =>
    rw [joinBlanks.eq_3 _ _ _ _ _ hne, List.headD_nil, joinBlanks_succ, ih]
    rfl

/-- joining with single blanks is the special case the writer uses -/
theorem tokenizeLine_joinSp (toks : List Str) (h : ∀ t ∈ toks, IsToken t) : tokenizeLine (joinSp toks) = toks := by
  rw [joinSp_eq_joinBlanks]; exact tokenizeLine_joinBlanks toks h 0 0 []

theorem atomicNumberOf_of_elementZ {s : Str} {z : Nat} (h : elementZ s = some z) : atomicNumberOf s = .ok (z : Int) := by
  unfold elementZ at h
  simp only [atomicNumberOf, h]

theorem atomicNumberOf_elementSyms (s : Str) (h : s ∈ elementSyms) : ∃ z : Int, atomicNumberOf s = .ok z ∧ 1 ≤ z ∧ z ≤ 118 := by
  obtain ⟨z, hz, h1, h2⟩ := elementZ_elementSyms h
  exact ⟨z, atomicNumberOf_of_elementZ hz, Int.ofNat_le.2 h1, Int.ofNat_le.2 h2⟩

namespace LineM

/-- the scan's test `i.split("=")[0] == key` fails on the token -/
def Miss (key : Str) (tok : Str) : Prop := (splitOnChar '=' tok).head? ≠ some key

theorem miss_keyed {key key' t : Str} (hk' : '=' ∉ key') (hne : key' ≠ key) {r : Str} (ht : t = key' ++ '=' :: r) :
    Miss key t := by
  rw [Miss, ht, splitOnChar_tok_sep '=' key' hk']
  simpa using hne

/-- the fold inside `keywordValues`, from an arbitrary accumulator -/
def kvFrom (key : Str) (acc : List Int) (line : List Str) : PyM (List Int) :=
  line.foldlM (fun acc tok =>
    if (splitOnChar '=' tok).head? == some key then do
      let v ← afterEq tok
      let i ← pyInt v
      pure (acc ++ [i])
    else pure acc) acc

theorem kvFrom_cons_miss {key t : Str} (h : Miss key t) (acc : List Int) (ts : List Str) :
    kvFrom key acc (t :: ts) = kvFrom key acc ts := by
  have ht : ((splitOnChar '=' t).head? == some key) = false := by simpa [Miss] using h
  simp only [kvFrom, List.foldlM_cons, ht, Bool.false_eq_true, if_false, pure_bind]

theorem kvFrom_cons_hit {key : Str} (hk : '=' ∉ key) {v : Int} (hlen : (intRepr v).length ≤ intMaxStrDigits)
    (acc : List Int) (ts : List Str) :
    kvFrom key acc ((key ++ '=' :: intRepr v) :: ts) = kvFrom key (acc ++ [v]) ts := by
  have hs : splitOnChar '=' (key ++ '=' :: intRepr v) = [key, intRepr v] := by
    rw [splitOnChar_tok_sep '=' key hk, splitOnChar_of_not_mem '=' _ (not_mem_intRepr (by decide) (by decide) v)]
  simp only [kvFrom, List.foldlM_cons, hs, List.head?_cons, beq_self_eq_true, if_true, afterEq,
    getIdx, List.getElem?_cons_succ, List.getElem?_cons_zero, PyM.ok_bind, pyInt_intRepr v hlen]
  rfl

theorem kvFrom_skip {key : Str} {pre : List Str} (h : ∀ t ∈ pre, Miss key t) (acc : List Int) (rest : List Str) :
    kvFrom key acc (pre ++ rest) = kvFrom key acc rest := by
  induction pre with
  | nil => rfl
  | cons t ts ih => rw [List.cons_append, kvFrom_cons_miss (h t (by simp)), ih fun x hx => h x (by simp [hx])]

/-- `l` lists what the tokens behind `pre` stand for: `f` spells an item, `g` is what the scan for `key` reads from it -/
theorem keywordValues_scan {α} {key : Str} (hk : '=' ∉ key) (f : α → Str) (g : α → Option Int) {pre : List Str}
    (hpre : ∀ t ∈ pre, Miss key t) (l : List α)
    (h : ∀ a ∈ l, (∃ v, g a = some v ∧ f a = key ++ '=' :: intRepr v ∧ (intRepr v).length ≤ intMaxStrDigits) ∨
      (g a = none ∧ Miss key (f a))) :
    keywordValues key (pre ++ l.map f) = .ok (l.filterMap g) := by
  show kvFrom key [] _ = _
  suffices H : ∀ acc, kvFrom key acc (l.map f) = .ok (acc ++ l.filterMap g) by rw [kvFrom_skip hpre, H, List.nil_append]
  induction l with
  | nil => intro acc; simp [kvFrom]
  | cons a l ih =>
    intro acc
    have ih := ih fun b hb => h b (by simp [hb])
    rcases h a (by simp) with ⟨v, hg, hf, hlen⟩ | ⟨hg, hm⟩
    · rw [List.map_cons, hf, kvFrom_cons_hit hk hlen, ih, List.filterMap_cons_some hg, List.append_assoc]
      rfl
    · rw [List.map_cons, kvFrom_cons_miss hm, ih, List.filterMap_cons_none hg]

/-- what the atom-line reader's three scans pass over -/
def NoKey (t : Str) : Prop := Miss (cs "CHG") t ∧ Miss (cs "MASS") t ∧ Miss (cs "RAD") t

/-- (by the kernel: see `toList_lit`) -/
theorem keywords_eq : cs "CHG" = ['C', 'H', 'G'] ∧ cs "MASS" = ['M', 'A', 'S', 'S'] ∧ cs "RAD" = ['R', 'A', 'D'] := by
  simp (disch := rfl) only [cs, toList_lit, and_self]

theorem headPiece_ne (tok : Str) (k : Char) (ks : Str) (h : tok.head? ≠ some k) :
    (splitOnChar '=' tok).head? ≠ some (k :: ks) := by
  cases tok with
  | nil => simp [splitOnChar]
  | cons c r =>
    have hc : c ≠ k := fun e => h (by simp [e])
    simp only [splitOnChar]
    split
    · simp
    · split <;> simp [hc]

theorem noKey_of_head {t : Str} (h : ∀ c, t.head? = some c → c ≠ 'C' ∧ c ≠ 'M' ∧ c ≠ 'R') : NoKey t := by
  rw [NoKey, keywords_eq.1, keywords_eq.2.1, keywords_eq.2.2]
  exact ⟨headPiece_ne t 'C' _ fun e => (h _ e).1 rfl, headPiece_ne t 'M' _ fun e => (h _ e).2.1 rfl,
    headPiece_ne t 'R' _ fun e => (h _ e).2.2 rfl⟩

theorem noKey_of_float {t : Str} (hf : pyFloatOk t = true) : NoKey t := by
  refine noKey_of_head fun c hc => ?_
  obtain ⟨r, rfl⟩ := List.head?_eq_some_iff.1 hc
  -- a text that starts with `C`, `M` or `R` fails the float test at that character, whatever follows it
  have hfalse : c = 'C' ∨ c = 'M' ∨ c = 'R' → pyFloatOk (c :: r) = false := by
    unfold pyFloatOk
    rintro (rfl | rfl | rfl) <;> rw [numText_cons (by decide) (by decide)] <;> rfl
  have h : ¬(c = 'C' ∨ c = 'M' ∨ c = 'R') := fun hc => Bool.false_ne_true ((hfalse hc).symm.trans hf)
  exact ⟨fun e => h (.inl e), fun e => h (.inr (.inl e)), fun e => h (.inr (.inr e))⟩

/-- the keywords have three or more characters -/
theorem noKey_of_short {t : Str} (h : '=' ∉ t) (hl : t.length ≤ 2) : NoKey t := by
  have m : ∀ key : Str, 3 ≤ key.length → Miss key t := fun key hk => by
    rw [Miss, splitOnChar_of_not_mem '=' t h, List.head?_cons, ne_eq, Option.some.injEq]
    rintro rfl
    exact absurd (Nat.le_trans hk hl) (by decide)
  rw [NoKey, keywords_eq.1, keywords_eq.2.1, keywords_eq.2.2]
  exact ⟨m _ (by simp), m _ (by simp), m _ (by simp)⟩

theorem prefix_words : (IsToken (cs "M") ∧ NoKey (cs "M") ∧ '(' ∉ cs "M") ∧
    IsToken (cs "V30") ∧ NoKey (cs "V30") ∧ '(' ∉ cs "V30" := by
  unfold NoKey Miss
  decide +kernel

theorem letter_plain {c : Char} (h : isUpper c = true ∨ isLower c = true) :
    isPySpace c = false ∧ c ≠ '*' ∧ c ≠ '=' := by
  have hr : 65 ≤ c.toNat ∧ c.toNat ≤ 122 := by
    rcases h with h | h
    · have := isUpper_iff.1 h; omega
    · have := isLower_iff.1 h; omega
  refine ⟨not_space_of_gt (by omega) (by omega), ?_, ?_⟩ <;> (rintro rfl; revert hr; decide)

/-- the symbols the readers know, `D` and `T` among them, are one capital or a capital and a small letter -/
theorem atomSym_shape {s : Str} (h : s ∈ elementSyms ∨ s = ['D'] ∨ s = ['T']) : IsToken s ∧ s ≠ ['*'] ∧ NoKey s := by
  have hs : symbolShapeOk s = true := by
    rcases h with h | rfl | rfl
    · exact List.all_eq_true.1 elementSymbols_shape s h
    · rfl
    · rfl
  obtain ⟨hlen, hne, hall⟩ : s.length ≤ 2 ∧ s ≠ [] ∧ ∀ c ∈ s, isUpper c = true ∨ isLower c = true := by
    unfold symbolShapeOk at hs
    split at hs
    · exact ⟨by simp, by simp, by simpa using .inl hs⟩
    · rw [Bool.and_eq_true] at hs
      exact ⟨by simp, by simp, by simpa using ⟨.inl hs.1, .inr hs.2⟩⟩
    · cases hs
  have hp := fun c hc => letter_plain (hall c hc)
  exact ⟨⟨hne, fun c hc => (hp c hc).1⟩, fun e => (hp '*' (e ▸ List.mem_singleton_self _)).2.1 rfl,
    noKey_of_short (fun hm => (hp '=' hm).2.2 rfl) hlen⟩

theorem detect_of_ne {s : Str} (hD : s ≠ ['D']) (hT : s ≠ ['T']) : detectHydrogenIsotopes s = (s, 0) := by
  simp only [detectHydrogenIsotopes, beq_iff_eq, hD, hT, if_false]

theorem detect_elementSym {s : Str} (h : s ∈ elementSyms) : detectHydrogenIsotopes s = (s, 0) :=
  detect_of_ne (fun e => isotope_not_mem_elementSyms.1 (e ▸ h)) fun e => isotope_not_mem_elementSyms.2 (e ▸ h)

theorem detect_fst_mem {s : Str} (h : s ∈ elementSyms ∨ s = ['D'] ∨ s = ['T']) :
    (detectHydrogenIsotopes s).1 ∈ elementSyms := by
  rcases h with h | rfl | rfl
  · rwa [detect_elementSym h]
  · exact hydrogen_mem_elementSyms
  · exact hydrogen_mem_elementSyms

theorem detect_snd (s : Str) : (detectHydrogenIsotopes s).2 = 0 ∨ (detectHydrogenIsotopes s).2 = 2 ∨
    (detectHydrogenIsotopes s).2 = 3 := by
  unfold detectHydrogenIsotopes
  split
  · exact .inr (.inl rfl)
  · split
    · exact .inr (.inr rfl)
    · exact .inl rfl

theorem lastNonZero_concat (vals : List Int) (v : Int) :
    lastNonZero (vals ++ [v]) = if v = 0 then none else some v := by
  simp [lastNonZero]

theorem lastNonZero_toList (o : Option Int) (h : ∀ v, o = some v → v ≠ 0) : lastNonZero o.toList = o := by
  cases o with
  | none => rfl
  | some v => exact (lastNonZero_concat [] v).trans (if_neg (h v rfl))

end LineM

end Tucan
