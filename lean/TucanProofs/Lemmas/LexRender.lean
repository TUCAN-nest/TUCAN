import TucanProofs.Lemmas.Tables
/-!
# Maximal munch reads back a token sequence whose neighbours cannot merge

`lex` is the model of the ANTLR lexer: at every position the longest match among the literal tokens and
`GREATER_THAN_NINE : [1-9][0-9]+` wins.  There are two ways in which it can read two neighbours differently
(`okAfter`); lexing the concatenated text of lexer tokens in which neither occurs returns exactly the tokens
(`lex_render`).  Conversely, what `lex` returns are lexer tokens (`lex_valid`).  The last part says by class of token
(element symbol, fixed literal, punctuation) which tokens are lexer tokens and which neighbours cannot merge.
-/
namespace Tucan

/-- a token the lexer can produce -/
def ValidTok : Tok → Bool
  | .lit s => literals.contains s
  | .big ds => match ds with
    | c :: r => ('1' ≤ c && c ≤ '9') && !r.isEmpty && r.all isDigit
    | [] => false

def isOneUpper : Tok → Bool
  | .lit [c] => isUpper c
  | _ => false

/-- what may follow token `a` in the text: after a one-letter symbol no lower-case letter (the two could be a
two-letter symbol), after a number no digit (a longer number) -/
def okAfter (a : Tok) (rest : Str) : Bool :=
  !(isOneUpper a && rest.head?.any isLower) && !(isGtZero a && rest.head?.any isDigit)

theorem okAfter_of {a : Tok} {rest : Str} (h1 : isOneUpper a = false ∨ rest.head?.any isLower = false)
    (h2 : isGtZero a = false ∨ rest.head?.any isDigit = false) : okAfter a rest = true := by
  unfold okAfter
  rcases h1 with h1 | h1 <;> rcases h2 with h2 | h2 <;> simp [h1, h2]

def Separable (a b : Tok) : Bool := okAfter a b.text

def chainSeparable : List Tok → Bool
  | a :: b :: r => Separable a b && chainSeparable (b :: r)
  | _ => true

def render (ts : List Tok) : Str := (ts.map Tok.text).flatten

theorem render_cons (a : Tok) (ts : List Tok) : render (a :: ts) = a.text ++ render ts := by
  simp [render]

theorem render_append (a b : List Tok) : render (a ++ b) = render a ++ render b := by
  simp [render]

namespace LexRender

/-- the literal tokens by shape: one character that is no lower-case letter (one-letter symbol, punctuation,
digit), a two-letter symbol, or a key (spelt out: taking a string literal apart is dear) -/
def litClass (l : Str) : Bool :=
  match l with
  | [c] => !isLower c
  | [a, b] => isUpper a && isLower b
  | _ => l == ['m', 'a', 's', 's'] || l == ['r', 'a', 'd']

theorem literals_class {l : Str} (h : l ∈ literals) : litClass l = true := by
  rcases mem_literals.1 h with h | h
  · have hs := List.all_eq_true.1 elementSymbols_shape l h
    unfold symbolShapeOk at hs
    split at hs
    · simp [litClass, isUpper_not_lower hs]
    · exact hs
    · cases hs
  · exact List.all_eq_true.1 (by decide +kernel : fixedLiterals.all litClass = true) l h

theorem lit_shape {l : Str} (h : l ∈ literals) :
    ∃ c r, l = c :: r ∧ ((decide ('1' ≤ c) && decide (c ≤ '9')) = true → r = []) := by
  have hc := literals_class h
  unfold litClass at hc
  split at hc
  · next c => exact ⟨c, [], rfl, fun _ => rfl⟩
  · next a b =>
    simp only [Bool.and_eq_true] at hc
    exact ⟨a, [b], rfl, fun hd => absurd hd (by simpa using isUpper_not_digit19 hc.1)⟩
  · rcases Bool.or_eq_true_iff.1 hc with hc | hc
    · rw [eq_of_beq hc]; exact ⟨'m', _, rfl, by decide⟩
    · rw [eq_of_beq hc]; exact ⟨'r', _, rfl, by decide⟩

theorem lit_ext {l l' : Str} (h : l ∈ literals) (h' : l' ∈ literals) (hp : l <+: l')
    (hlen : l.length < l'.length) :
    ∃ u c, l = [u] ∧ l' = [u, c] ∧ isUpper u = true ∧ isLower c = true := by
  -- `l` is `l'.take n` for an `n < l'.length` and has a class: by the class of `l'`, only `[u, c].take 1` has one
  obtain ⟨n, hn, rfl⟩ : ∃ n < l'.length, l = l'.take n := ⟨_, hlen, List.prefix_iff_eq_take.1 hp⟩
  have hc := literals_class h
  have hc' := literals_class h'
  unfold litClass at hc'
  split at hc'
  · next c =>
    obtain rfl : n = 0 := by simpa using hn
    cases hc
  · next a b =>
    obtain rfl | rfl : n = 0 ∨ n = 1 := by simp at hn; omega
    · cases hc
    · exact ⟨a, b, rfl, rfl, by simpa using hc'⟩
  · have key : ∀ k ∈ [['m', 'a', 's', 's'], ['r', 'a', 'd']], ∀ n < k.length, litClass (k.take n) = false := by
      decide +kernel
    rw [key l' (by simpa using hc') n hn] at hc
    cases hc

/-- the step of the fold in `longestLiteral`, by name -/
def llStep (s : Str) (best : Nat) (l : Str) : Nat :=
  if l.isPrefixOf s && l.length > best then l.length else best

theorem ll_foldl (s : Str) : ∀ (lits : List Str) (best : Nat),
    best ≤ lits.foldl (llStep s) best ∧
    (∀ l ∈ lits, l <+: s → l.length ≤ lits.foldl (llStep s) best) ∧
    (lits.foldl (llStep s) best = best ∨
      ∃ l ∈ lits, l <+: s ∧ lits.foldl (llStep s) best = l.length)
  | [], best => by simp
  | a :: lits, best => by
    obtain ⟨h1, h2, h3⟩ := ll_foldl s lits (llStep s best a)
    rw [List.foldl_cons]
    generalize lits.foldl (llStep s) (llStep s best a) = F at h1 h2 h3 ⊢
    unfold llStep at h1 h3
    by_cases hc : (a.isPrefixOf s && decide (a.length > best)) = true
    · rw [if_pos hc] at h1 h3
      obtain ⟨hp, hgt⟩ : a <+: s ∧ best < a.length := by simpa using hc
      refine ⟨by omega, List.forall_mem_cons.2 ⟨fun _ => h1, h2⟩, .inr ?_⟩
      rcases h3 with h3 | ⟨l, hl, h⟩
      · exact ⟨a, List.mem_cons_self, hp, h3⟩
      · exact ⟨l, List.mem_cons_of_mem _ hl, h⟩
    · rw [if_neg hc] at h1 h3
      refine ⟨h1, List.forall_mem_cons.2 ⟨fun hp => ?_, h2⟩,
        h3.imp id fun ⟨l, hl, h⟩ => ⟨l, List.mem_cons_of_mem _ hl, h⟩⟩
      have : ¬ best < a.length := by simpa [hp] using hc
      omega

theorem longestLiteral_ge {lits : List Str} {s l : Str} (hl : l ∈ lits) (hp : l <+: s) :
    l.length ≤ longestLiteral lits s :=
  (ll_foldl s lits 0).2.1 l hl hp

theorem longestLiteral_cases (lits : List Str) (s : Str) :
    longestLiteral lits s = 0 ∨ ∃ l ∈ lits, l <+: s ∧ longestLiteral lits s = l.length :=
  (ll_foldl s lits 0).2.2

theorem lexGo_succ (lits : List Str) (fuel : Nat) {s : Str} (hs : s ≠ []) :
    lexGo lits (fuel + 1) s =
      if bigNumberLen s > longestLiteral lits s then
        (lexGo lits fuel (s.drop (bigNumberLen s))).map (Tok.big (s.take (bigNumberLen s)) :: ·)
      else if longestLiteral lits s > 0 then
        (lexGo lits fuel (s.drop (longestLiteral lits s))).map (Tok.lit (s.take (longestLiteral lits s)) :: ·)
      else none := by
  cases s with
  | nil => exact absurd rfl hs
  | cons c r => simp only [lexGo]

theorem bigNumberLen_cons (c : Char) (r : Str) :
    bigNumberLen (c :: r) =
      if ('1' ≤ c && c ≤ '9') = true ∧ r.takeWhile isDigit ≠ [] then (c :: r.takeWhile isDigit).length else 0 := by
  simp only [bigNumberLen]
  by_cases hc : ('1' ≤ c && c ≤ '9') = true
  · rw [if_pos hc]
    by_cases hk : r.takeWhile isDigit = []
    · rw [hk, if_neg (c := _ ∧ _ ≠ _) fun h => h.2 rfl]
      rfl
    · rw [if_pos (c := _ ∧ _) ⟨hc, hk⟩, List.length_cons]
      exact if_pos (List.length_pos_iff.2 hk)
  · rw [if_neg hc, if_neg fun h => hc h.1]

theorem okAfter_append (a : Tok) {s : Str} (hs : s ≠ []) (t : Str) : okAfter a (s ++ t) = okAfter a s := by
  cases s with
  | nil => exact absurd rfl hs
  | cons c r => rfl

theorem takeWhile_isDigit_of_okAfter {a : Tok} {rest : Str} (ha : isGtZero a = true)
    (hok : okAfter a rest = true) : rest.takeWhile isDigit = [] := by
  cases rest with
  | nil => rfl
  | cons c t =>
    simp [okAfter, ha] at hok
    simp [hok.2]

theorem munch_lit (fuel : Nat) (l rest : Str) (hl : l ∈ literals)
    (hok : okAfter (.lit l) rest = true) :
    lexGo literals (fuel + 1) (l ++ rest) = (lexGo literals fuel rest).map (Tok.lit l :: ·) := by
  -- no longer literal matches: it would be a two-letter symbol, and `rest` would start with its lower-case letter
  have hL : longestLiteral literals (l ++ rest) = l.length := by
    apply Nat.le_antisymm
    · rcases longestLiteral_cases literals (l ++ rest) with h0 | ⟨l', hl', hp', he⟩
      · omega
      · rw [he]
        refine Nat.le_of_not_lt fun hgt => ?_
        have hpre : l <+: l' :=
          List.prefix_of_prefix_length_le (List.prefix_append l rest) hp' (by omega)
        obtain ⟨u, c, rfl, rfl, hu, hc⟩ := lit_ext hl hl' hpre (by omega)
        simp only [List.cons_append, List.nil_append, List.cons_prefix_cons, true_and] at hp'
        cases rest with
        | nil => simp at hp'
        | cons c' t' =>
          simp only [List.cons_prefix_cons] at hp'
          obtain ⟨rfl, _⟩ := hp'
          simp [okAfter, isOneUpper, hu, hc] at hok
    · exact longestLiteral_ge hl (List.prefix_append l rest)
  -- no number matches: a literal that starts with `1`..`9` is that digit, and `rest` does not start with a digit
  obtain ⟨c, r, rfl, hshape⟩ := lit_shape hl
  have hB : bigNumberLen ((c :: r) ++ rest) = 0 := by
    rw [List.cons_append, bigNumberLen_cons]
    refine if_neg fun ⟨hc, hne⟩ => hne ?_
    obtain rfl := hshape hc
    exact takeWhile_isDigit_of_okAfter (by exact hc) hok
  rw [lexGo_succ _ _ (by simp), hB, hL, if_neg (Nat.not_lt_zero _), if_pos (by simp),
    List.take_left' rfl, List.drop_left' rfl]

theorem munch_big (fuel : Nat) (ds rest : Str) (hv : ValidTok (.big ds) = true)
    (hok : okAfter (.big ds) rest = true) :
    lexGo literals (fuel + 1) (ds ++ rest) = (lexGo literals fuel rest).map (Tok.big ds :: ·) := by
  cases ds with
  | nil => simp [ValidTok] at hv
  | cons c r =>
    simp only [ValidTok, Bool.and_eq_true, Bool.not_eq_true', List.isEmpty_eq_false_iff] at hv
    obtain ⟨⟨hc, hne⟩, hdig⟩ := hv
    have hr1 : 0 < r.length := List.length_pos_iff.2 hne
    have hB : bigNumberLen ((c :: r) ++ rest) = (c :: r).length := by
      rw [List.cons_append, bigNumberLen_cons, List.takeWhile_append_of_pos fun a ha => List.all_eq_true.1 hdig a ha,
        takeWhile_isDigit_of_okAfter rfl hok, List.append_nil, if_pos ⟨by simpa using hc, hne⟩]
    have hL : longestLiteral literals ((c :: r) ++ rest) < (c :: r).length := by
      rw [List.length_cons]
      rcases longestLiteral_cases literals ((c :: r) ++ rest) with h0 | ⟨l', hl', hp', he⟩
      · omega
      · -- a literal that starts with the number's first digit is that digit
        obtain ⟨c', r', rfl, hshape⟩ := lit_shape hl'
        simp only [List.cons_append, List.cons_prefix_cons] at hp'
        obtain ⟨rfl, _⟩ := hp'
        obtain rfl := hshape (by simpa using hc)
        rw [he, List.length_singleton]
        omega
    rw [lexGo_succ _ _ (by simp), hB, if_pos hL, List.take_left' rfl, List.drop_left' rfl]

theorem munch (fuel : Nat) (a : Tok) (rest : Str) (hv : ValidTok a = true)
    (hok : okAfter a rest = true) :
    lexGo literals (fuel + 1) (a.text ++ rest) = (lexGo literals fuel rest).map (a :: ·) := by
  cases a with
  | lit l =>
    exact munch_lit fuel l rest (List.contains_iff_mem.mp hv) hok
  | big ds => exact munch_big fuel ds rest hv hok

theorem text_ne_nil {a : Tok} (hv : ValidTok a = true) : a.text ≠ [] := by
  cases a with
  | lit l =>
    obtain ⟨c, r, rfl, _⟩ := lit_shape (List.contains_iff_mem.mp hv)
    exact List.cons_ne_nil _ _
  | big ds =>
    cases ds with
    | nil => simp [ValidTok] at hv
    | cons _ _ => simp [Tok.text]

theorem lexGo_render : ∀ (ts : List Tok), (∀ t ∈ ts, ValidTok t = true) → chainSeparable ts = true →
    ∀ fuel, (render ts).length ≤ fuel → lexGo literals fuel (render ts) = some ts
  | [], _, _, fuel, _ => by cases fuel <;> rfl
  | a :: ts, hv, hs, fuel, hf => by
    obtain ⟨hva, hvt⟩ := List.forall_mem_cons.1 hv
    rw [render_cons] at hf ⊢
    have hpos : 0 < a.text.length := List.length_pos_iff.mpr (text_ne_nil hva)
    rw [List.length_append] at hf
    obtain ⟨fuel, rfl⟩ : ∃ f, fuel = f + 1 := ⟨fuel - 1, by omega⟩
    obtain ⟨hst, hok⟩ : chainSeparable ts = true ∧ okAfter a (render ts) = true := by
      cases ts with
      | nil => exact ⟨rfl, by simp [okAfter, render]⟩
      | cons b r =>
        rw [render_cons, okAfter_append a (text_ne_nil (hvt b List.mem_cons_self))]
        exact (Bool.and_eq_true_iff.1 hs).symm
    rw [munch fuel a (render ts) hva hok, lexGo_render ts hvt hst fuel (by omega)]
    rfl

theorem bigNumberLen_valid {s : Str} (h : 0 < bigNumberLen s) :
    ValidTok (.big (s.take (bigNumberLen s))) = true := by
  cases s with
  | nil => cases h
  | cons c r =>
    rw [bigNumberLen_cons] at h ⊢
    split at h
    · next hc =>
      rw [if_pos hc, List.length_cons, List.take_succ_cons, ← List.prefix_iff_eq_take.1 (List.takeWhile_prefix _)]
      simp only [ValidTok, hc.1, List.all_takeWhile, Bool.true_and, Bool.and_true, Bool.not_eq_true',
        List.isEmpty_eq_false_iff]
      exact hc.2
    · cases h

theorem lexGo_valid (fuel : Nat) (s : Str) (ts : List Tok) (h : lexGo literals fuel s = some ts) :
    ∀ t ∈ ts, ValidTok t = true := by
  fun_induction lexGo literals fuel s generalizing ts with
  | case1 => cases h; exact nofun
  | case2 | case5 => cases h
  | case3 fuel c r l b hb ih =>
    obtain ⟨ts', hr, rfl⟩ := Option.map_eq_some_iff.1 h
    exact List.forall_mem_cons.2 ⟨bigNumberLen_valid (by omega), ih _ hr⟩
  | case4 fuel c r l b hb hl ih =>
    obtain ⟨ts', hr, rfl⟩ := Option.map_eq_some_iff.1 h
    refine List.forall_mem_cons.2 ⟨?_, ih _ hr⟩
    rcases longestLiteral_cases literals (c :: r) with h0 | ⟨l', hl', hp, he⟩
    · omega
    · rw [show l = l'.length from he, ← List.prefix_iff_eq_take.1 hp, ValidTok]
      exact List.contains_iff_mem.2 hl'

/-- a fixed literal or a `GREATER_THAN_NINE`: a lexer token whatever the element table holds -/
def fixedTok : Tok → Bool
  | .lit l => fixedLiterals.contains l
  | t => ValidTok t

theorem validTok_of_fixed {t : Tok} (h : fixedTok t = true) : ValidTok t = true := by
  cases t with
  | lit l => exact List.contains_iff_mem.2 (mem_literals.2 (.inr (List.contains_iff_mem.1 h)))
  | big _ => exact h

theorem sym_valid {s : Str} (h : s ∈ elementSyms) : ValidTok (Tok.lit s) = true :=
  List.contains_iff_mem.2 (mem_literals.2 (.inl h))

/-- punctuation: a fixed literal of one character that is neither a letter nor a digit -/
def punctOk : Tok → Bool
  | .lit [c] => fixedLiterals.contains [c] && !isUpper c && !isLower c && !isDigit c
  | _ => false

def keyOk (t : Tok) : Bool := fixedTok t && isKey t

def numOk (t : Tok) : Bool := fixedTok t && isGtZero t

theorem punct_valid {p : Tok} (h : punctOk p = true) : ValidTok p = true := by
  unfold punctOk at h
  split at h
  · simp only [Bool.and_eq_true] at h
    exact validTok_of_fixed h.1.1.1
  · cases h

theorem sep_punct {p : Tok} (h : punctOk p = true) (a b : Tok) :
    Separable a p = true ∧ Separable p b = true := by
  unfold punctOk at h
  split at h
  · next c =>
    simp only [Bool.and_eq_true, Bool.not_eq_true'] at h
    obtain ⟨⟨⟨-, hu⟩, hl⟩, hd⟩ := h
    have h19 : (decide ('1' ≤ c) && decide (c ≤ '9')) = false := Bool.eq_false_iff.2 fun h =>
      absurd (digit19_iff.1 (by simpa using h)).1 (by simp [hd])
    exact ⟨okAfter_of (.inr hl) (.inr hd), okAfter_of (.inl hu) (.inl h19)⟩
  · cases h

/-- punctuation separates: what stands before it and what stands after it do not meet.  Every rule but the formula's
is numbers and keys between punctuation -/
theorem chain_punct {p : Tok} (hp : punctOk p = true) : ∀ l₁ l₂ : List Tok,
    chainSeparable (l₁ ++ p :: l₂) = (chainSeparable l₁ && chainSeparable l₂)
  | [], [] => rfl
  | [], b :: r => by
    rw [List.nil_append, chainSeparable, (sep_punct hp p b).2]
    rfl
  | [a], l₂ => by
    rw [List.singleton_append, chainSeparable, (sep_punct hp a p).1, ← List.nil_append (p :: l₂), chain_punct hp]
    rfl
  | a :: b :: r, l₂ => by
    rw [List.cons_append, List.cons_append, chainSeparable, chainSeparable, ← List.cons_append, chain_punct hp,
      Bool.and_assoc]

theorem sep_sym {s : Str} (h : s ∈ elementSyms) (a : Tok) : Separable a (Tok.lit s) = true := by
  obtain ⟨-, -, c, r, rfl, hc⟩ := symbolShape_tok (List.all_eq_true.1 elementSymbols_shape s h)
  exact okAfter_of (.inr (isUpper_not_lower hc)) (.inr (isUpper_not_digit hc))

end LexRender

theorem lex_render (ts : List Tok) (hv : ∀ t ∈ ts, ValidTok t = true) (hs : chainSeparable ts = true) :
    lex (render ts) = some ts :=
  LexRender.lexGo_render ts hv hs _ (Nat.le_refl _)

theorem lex_valid {s : Str} {ts : List Tok} (h : lex s = some ts) : ∀ t ∈ ts, ValidTok t = true :=
  LexRender.lexGo_valid _ _ _ h

end Tucan
