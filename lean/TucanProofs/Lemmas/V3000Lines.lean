import TucanProofs.Lemmas.LineMachinery
/-!
# V3000 atom and bond lines under every spelling the format permits

The atom line `index type x y z aamap [KEY=value …]`: key=value properties in ANY order, other
spec-defined keywords (whatever their values) in between, explicitly written defaults, `D` / `T`, repeated
keys (the last one counts).  The bond line with a multi-attachment `ENDPTS=(n a₁ … aₙ)` list.
-/
namespace Tucan

/-- a property token of an atom line -/
inductive AtomProp
  | chg (v : Int)
  | rad (v : Int)
  | mass (v : Int)
  | other (tok : Str)      -- any other spec keyword with its value, e.g. `EXACHG=1`, `CFG=2`, `RGROUPS=(2`, `1`, `2)`
  deriving Repr

def AtomProp.tok : AtomProp → Str
  | .chg v => cs "CHG=" ++ intRepr v
  | .rad v => cs "RAD=" ++ intRepr v
  | .mass v => cs "MASS=" ++ intRepr v
  | .other t => t

/-- a token that is not one of the three keywords: the text before its first `=` is none of them -/
def NotKeyword (t : Str) : Prop :=
  IsToken t ∧ (splitOnChar '=' t).head? ≠ some (cs "CHG") ∧ (splitOnChar '=' t).head? ≠ some (cs "MASS") ∧
    (splitOnChar '=' t).head? ≠ some (cs "RAD")

instance (t : Str) : Decidable (NotKeyword t) := by unfold NotKeyword; infer_instance

/-- `NotKeyword` is `IsToken` and `LineM.NoKey` (what the reader's three scans pass over) written out -/
theorem NotKeyword.noKey {t : Str} (h : NotKeyword t) : LineM.NoKey t := h.2

def AtomProp.Ok : AtomProp → Prop
  | .other t => NotKeyword t
  | .chg v => (intRepr v).length ≤ intMaxStrDigits
  | .rad v => (intRepr v).length ≤ intMaxStrDigits
  | .mass v => (intRepr v).length ≤ intMaxStrDigits

instance AtomProp.decOk : (p : AtomProp) → Decidable p.Ok
  | .other _ | .chg _ | .rad _ | .mass _ => by unfold AtomProp.Ok; infer_instance

def chgValues (ps : List AtomProp) : List Int := ps.filterMap fun | .chg v => some v | _ => none
def radValues (ps : List AtomProp) : List Int := ps.filterMap fun | .rad v => some v | _ => none
def massValues (ps : List AtomProp) : List Int := ps.filterMap fun | .mass v => some v | _ => none

/-- the `ENDPTS=(n a₁ … aₙ)` list, as the tokens of a bond line: `ENDPTS=(n`, `a₁`, …, `aₙ)` -/
def endptsToks (ends : List Nat) : List Str :=
  match ends with
  | [] => [cs "ENDPTS=(0)"]
  | _ =>
    let nums := (natRepr ends.length) :: ends.map natRepr
    match nums.reverse with
    | [] => []
    | last :: initRev => (cs "ENDPTS=(" ++ (initRev.reverse.headD [])) :: (initRev.reverse.drop 1) ++ [last ++ [')']]

namespace V3L
open LineM

/-- the tokens of a `M  V30 ` line: the two words of the prefix in front -/
def mv (ts : List Str) : List Str := cs "M" :: cs "V30" :: ts

def tBeginAtom : List Str := [cs "BEGIN", cs "ATOM"]
def tEndAtom : List Str := [cs "END", cs "ATOM"]
def tBeginBond : List Str := [cs "BEGIN", cs "BOND"]
def tEndBond : List Str := [cs "END", cs "BOND"]

/-- the texts `expectBlockLine` compares with -/
theorem joinSp_markers : joinSp tBeginAtom = cs "BEGIN ATOM" ∧ joinSp tEndAtom = cs "END ATOM" ∧
    joinSp tBeginBond = cs "BEGIN BOND" ∧ joinSp tEndBond = cs "END BOND" := by
  simp (disch := rfl) only [tBeginAtom, tEndAtom, tBeginBond, tEndBond, cs, toList_lit]
  decide +kernel

theorem tok_keyed (v : Int) : (AtomProp.chg v).tok = cs "CHG" ++ '=' :: intRepr v ∧
    (AtomProp.rad v).tok = cs "RAD" ++ '=' :: intRepr v ∧ (AtomProp.mass v).tok = cs "MASS" ++ '=' :: intRepr v := by
  have e : cs "CHG=" = cs "CHG" ++ ['='] ∧ cs "RAD=" = cs "RAD" ++ ['='] ∧ cs "MASS=" = cs "MASS" ++ ['='] := by
    simp (disch := rfl) only [cs, toList_lit]
    decide +kernel
  simp only [AtomProp.tok, e.1, e.2.1, e.2.2, List.append_assoc, List.cons_append, List.nil_append, and_self]

theorem keywords_apart : ('=' ∉ cs "CHG" ∧ '=' ∉ cs "MASS" ∧ '=' ∉ cs "RAD") ∧
    cs "CHG" ≠ cs "MASS" ∧ cs "CHG" ≠ cs "RAD" ∧ cs "MASS" ≠ cs "RAD" := by
  decide +kernel

/-- the reader's three scans of an atom line: each passes over `pre`, over the other tokens and over the properties under
the other two keywords, and collects the values under its own -/
theorem keywordValues_props {pre : List Str} (hpre : ∀ t ∈ pre, NoKey t) (ps : List AtomProp) (h : ∀ p ∈ ps, p.Ok) :
    keywordValues (cs "CHG") (pre ++ ps.map AtomProp.tok) = .ok (chgValues ps) ∧
    keywordValues (cs "MASS") (pre ++ ps.map AtomProp.tok) = .ok (massValues ps) ∧
    keywordValues (cs "RAD") (pre ++ ps.map AtomProp.tok) = .ok (radValues ps) := by
  obtain ⟨⟨e1, e2, e3⟩, n1, n2, n3⟩ := keywords_apart
  refine ⟨keywordValues_scan e1 AtomProp.tok _ (fun t ht => (hpre t ht).1) ps fun p hp => ?_,
    keywordValues_scan e2 AtomProp.tok _ (fun t ht => (hpre t ht).2.1) ps fun p hp => ?_,
    keywordValues_scan e3 AtomProp.tok _ (fun t ht => (hpre t ht).2.2) ps fun p hp => ?_⟩
  · have hp := h p hp
    cases p with
    | chg v => exact .inl ⟨v, rfl, (tok_keyed v).1, hp⟩
    | rad v => exact .inr ⟨rfl, miss_keyed e3 n2.symm (tok_keyed v).2.1⟩
    | mass v => exact .inr ⟨rfl, miss_keyed e2 n1.symm (tok_keyed v).2.2⟩
    | other t => exact .inr ⟨rfl, (NotKeyword.noKey hp).1⟩
  · have hp := h p hp
    cases p with
    | chg v => exact .inr ⟨rfl, miss_keyed e1 n1 (tok_keyed v).1⟩
    | rad v => exact .inr ⟨rfl, miss_keyed e3 n3.symm (tok_keyed v).2.1⟩
    | mass v => exact .inl ⟨v, rfl, (tok_keyed v).2.2, hp⟩
    | other t => exact .inr ⟨rfl, (NotKeyword.noKey hp).2.1⟩
  · have hp := h p hp
    cases p with
    | chg v => exact .inr ⟨rfl, miss_keyed e1 n2 (tok_keyed v).1⟩
    | rad v => exact .inl ⟨v, rfl, (tok_keyed v).2.1, hp⟩
    | mass v => exact .inr ⟨rfl, miss_keyed e2 n3 (tok_keyed v).2.2⟩
    | other t => exact .inr ⟨rfl, (NotKeyword.noKey hp).2.2⟩

/-- a decimal numeral starts with a digit, so with none of `C`, `M`, `R` -/
theorem natRepr_noKey (n : Nat) : NoKey (natRepr n) := by
  refine noKey_of_head fun c hc => ?_
  have hd := natRepr_digits n c (List.mem_of_mem_head? hc)
  refine ⟨?_, ?_, ?_⟩ <;> (rintro rfl; revert hd; decide)

theorem natRepr_notKeyword (n : Nat) : NotKeyword (natRepr n) := ⟨natRepr_isToken n, natRepr_noKey n⟩

theorem isToken_append_intRepr {k : Str} (hk : ∀ c ∈ k, isPySpace c = false) (v : Int) : IsToken (k ++ intRepr v) :=
  ⟨fun h => intRepr_ne_nil v (List.append_eq_nil_iff.1 h).2, fun c hc => by
    rcases List.mem_append.1 hc with h | h
    · exact hk c h
    · exact intRepr_no_space v c h⟩

theorem _root_.Tucan.AtomProp.Ok.isToken {p : AtomProp} (h : p.Ok) : IsToken p.tok := by
  cases p with
  | other t => exact h.1
  | chg v => exact isToken_append_intRepr (by decide +kernel) v
  | rad v => exact isToken_append_intRepr (by decide +kernel) v
  | mass v => exact isToken_append_intRepr (by decide +kernel) v

theorem prefix_no_blank (p t R : Str) (hp : ' ' ∉ p) (h : p.isPrefixOf (t ++ ' ' :: R) = true) :
    p.isPrefixOf t = true := by
  induction p generalizing t with
  | nil => simp
  | cons a p ih =>
    cases t with
    | nil =>
      simp only [List.nil_append, List.isPrefixOf, Bool.and_eq_true, beq_iff_eq] at h
      exact absurd (by simp [h.1]) hp
    | cons c r =>
      simp only [List.cons_append, List.isPrefixOf, Bool.and_eq_true, beq_iff_eq] at h ⊢
      exact ⟨h.1, ih r (fun hm => hp (by simp [hm])) h.2⟩

theorem findInfix_tok_blank (p : Str) (hp : ' ' ∉ p) (t R : Str) (h : isInfix p t = false) :
    findInfix p (t ++ ' ' :: R) = (findInfix p R).map (· + (t.length + 1)) := by
  -- `p` starts nowhere in `t` nor at the blank: being blank-free, it would lie within `t`
  have hne : ∀ t, isInfix p t = false → p.isPrefixOf (t ++ ' ' :: R) = false := fun t h =>
    Bool.eq_false_iff.2 fun hq => by
      have hq := prefix_no_blank p t R hp hq
      cases t with
      | nil => cases p <;> simp_all [isInfix]
      | cons c r => rw [isInfix, hq] at h; cases h
  induction t with
  | nil =>
    have hne : p.isPrefixOf (' ' :: R) = false := hne [] h
    simp only [List.nil_append, findInfix, hne, Bool.false_eq_true, if_false, List.length_nil, Nat.zero_add]
  | cons c r ih =>
    have hne := hne _ h
    rw [isInfix, Bool.or_eq_false_iff] at h
    rw [List.cons_append] at hne ⊢
    simp only [findInfix, hne, Bool.false_eq_true, if_false, ih h.2, Option.map_map, List.length_cons]
    rfl

theorem findInfix_sp (p : Str) (hp : ' ' ∉ p) (R : Str) (pre : List Str) (h : ∀ t ∈ pre, isInfix p t = false) :
    findInfix p (sp pre ++ R) = (findInfix p R).map (· + (sp pre).length) := by
  induction pre with
  | nil => simp [sp]
  | cons a pre ih =>
    rw [sp_cons, List.append_assoc, List.cons_append, findInfix_tok_blank p hp a _ (h a (by simp)),
      ih (fun t ht => h t (by simp [ht])), Option.map_map]
    cases findInfix p R with
    | none => rfl
    | some k =>
      simp only [Option.map_some, Function.comp, Option.some.injEq, List.length_append, List.length_cons]; omega

theorem findInfix_self (p R : Str) : findInfix p (p ++ R) = some 0 := by
  cases hq : p ++ R with
  | nil =>
    have : p = [] := (List.append_eq_nil_iff.1 hq).1
    subst this; rfl
  | cons c r =>
    have : p.isPrefixOf (c :: r) = true := by
      rw [← hq, List.isPrefixOf_iff_prefix]; exact List.prefix_append p R
    simp only [findInfix, this, if_true]

theorem findInfix_char (c : Char) (A B : Str) (h : c ∉ A) : findInfix [c] (A ++ c :: B) = some A.length := by
  induction A with
  | nil => simp [findInfix, List.isPrefixOf]
  | cons a A ih =>
    have hne : (c == a) = false := by
      simp only [beq_eq_false_iff_ne, ne_eq]; rintro rfl; exact h (by simp)
    rw [List.cons_append]
    simp only [findInfix, List.isPrefixOf, hne, Bool.false_and, Bool.false_eq_true, if_false,
      ih (fun hm => h (by simp [hm])), Option.map_some, List.length_cons]

theorem findInfix_none (p t : Str) (h : isInfix p t = false) : findInfix p t = none := by
  induction t with
  | nil =>
    simp only [isInfix] at h
    simp [findInfix, h]
  | cons a r ih =>
    simp only [isInfix, Bool.or_eq_false_iff] at h
    simp [findInfix, h.1, ih h.2]

theorem mem_of_isInfix (p t : Str) (h : isInfix p t = true) (c : Char) (hc : c ∈ p) : c ∈ t := by
  induction t with
  | nil =>
    simp only [isInfix, List.isEmpty_iff] at h
    subst h; cases hc
  | cons a r ih =>
    simp only [isInfix, Bool.or_eq_true] at h
    rcases h with h | h
    · exact (List.isPrefixOf_iff_prefix.1 h).subset hc
    · exact List.mem_cons_of_mem _ (ih h)

/-- one evaluation of the literal for the three facts -/
theorem endpts_word : ' ' ∉ cs "ENDPTS=(" ∧ (cs "ENDPTS=(").length = 8 ∧ '(' ∈ cs "ENDPTS=(" := by
  simp (disch := rfl) only [cs, toList_lit]
  decide +kernel

theorem endptsMatch_eq (A inner B : Str) (hA : findInfix (cs "ENDPTS=(") (A ++ (cs "ENDPTS=(" ++ (inner ++ ')' :: B))) = some A.length)
    (hinner : inner ≠ []) (hB : ')' ∉ B) :
    endptsMatch (A ++ (cs "ENDPTS=(" ++ (inner ++ ')' :: B))) = some inner := by
  have hbody : (A ++ (cs "ENDPTS=(" ++ (inner ++ ')' :: B))).drop (A.length + 8) = inner ++ ')' :: B := by
    rw [← List.append_assoc]
    exact List.drop_left' (by rw [List.length_append, endpts_word.2.1])
  have hrev : (inner ++ ')' :: B).reverse = B.reverse ++ ')' :: inner.reverse := by simp
  have hfind : findInfix [')'] (B.reverse ++ ')' :: inner.reverse) = some B.reverse.length :=
    findInfix_char ')' _ _ (fun h => hB (List.mem_reverse.1 h))
  have hpos : (inner ++ ')' :: B).length - 1 - B.reverse.length = inner.length := by
    simp only [List.length_append, List.length_cons, List.length_reverse]; omega
  have hlen : inner.length ≥ 1 := List.length_pos_iff.2 hinner
  unfold endptsMatch
  simp only [hA, hbody, hrev, hfind, hpos, hlen, if_true, List.take_left]

theorem noInfix_of_noParen {t : Str} (h : '(' ∉ t) : isInfix (cs "ENDPTS=(") t = false :=
  Bool.eq_false_iff.2 fun hi => h (mem_of_isInfix _ t hi '(' endpts_word.2.2)

theorem tokenizeLine_v30_joinBlanks (toks : List Str) (h : ∀ t ∈ toks, IsToken t) (lead trail : Nat)
    (gaps : List Nat) : tokenizeLine (v30Prefix ++ joinBlanks lead trail toks gaps) = mv toks := by
  show tk (rstrip (v30Prefix ++ joinBlanks lead trail toks gaps)) = _
  have hp : (∀ c ∈ v30Prefix, isPySpace c = true → c = ' ') ∧
      v30Prefix = cs "M" ++ ' ' :: ' ' :: (cs "V30" ++ [' ']) := by decide +kernel
  rw [tk_rstrip _ fun c hc hs => ?_]
  · rw [hp.2]
    simp only [List.append_assoc, List.cons_append, List.nil_append]
    rw [tk_append_blank, tk_cons_blank, tk_append_blank, tk_tok prefix_words.1.1, tk_tok prefix_words.2.1,
      tk_joinBlanks toks h]
    rfl
  · rcases List.mem_append.1 hc with hc | hc
    · exact hp.1 c hc hs
    · exact joinBlanks_blanksOnly h lead trail gaps c hc hs

theorem endptsToks_concat (init : List Nat) (l : Nat) :
    endptsToks (init ++ [l]) =
      (cs "ENDPTS=(" ++ natRepr (init.length + 1)) :: init.map natRepr ++ [natRepr l ++ [')']] := by
  have hcons : ∀ (e : Nat) (es : List Nat), endptsToks (e :: es) =
      match ((natRepr (e :: es).length) :: (e :: es).map natRepr).reverse with
      | [] => []
      | last :: initRev => (cs "ENDPTS=(" ++ (initRev.reverse.headD [])) :: (initRev.reverse.drop 1) ++ [last ++ [')']] :=
    fun _ _ => rfl
  cases hil : init ++ [l] with
  | nil => simp at hil
  | cons e es =>
    rw [hcons, ← hil]
    simp

end V3L
open LineM V3L

/-- **The atom line, every spelling.**  Tokens `M V30 index type x y z aamap` followed by properties in any
order, with any other keywords in between: the reader returns the stated element (D and T are hydrogen of
mass 2 and 3), the coordinate tokens, and for charge / radical / mass the LAST value written under that
exact keyword, an explicit 0 meaning the same as no keyword. -/
theorem parseAtomAttributes_general (idxTok sym x y z aamap : Str) (ps : List AtomProp)
    (hidx : NoKey idxTok) (haa : NoKey aamap)
    (hx : ∀ t ∈ [x, y, z], IsToken t ∧ pyFloatOk t = true)
    (hps : ∀ p ∈ ps, p.Ok)
    (hsym : sym ∈ elementSyms ∨ sym = ['D'] ∨ sym = ['T']) :
    ∃ zAt : Int, atomicNumberOf (detectHydrogenIsotopes sym).1 = .ok zAt ∧
    parseAtomAttributesV3000 (mv (idxTok :: sym :: x :: y :: z :: aamap :: ps.map AtomProp.tok)) =
      .ok (some { sym := some (detectHydrogenIsotopes sym).1, z := some zAt, part := some 0,
                  x := some x, y := some y, zc := some z,
                  chg := lastNonZero (chgValues ps),
                  mass := if (detectHydrogenIsotopes sym).2 = 0 then lastNonZero (massValues ps)
                          else some (detectHydrogenIsotopes sym).2,
                  rad := lastNonZero (radValues ps) }) := by
  have hpf : ∀ t ∈ [x, y, z], pyFloat t = .ok t := by
    intro t ht
    simp only [pyFloat, (hx t ht).2, if_true, strip_of_all t (hx t ht).1.2]
  obtain ⟨-, hstar, hsy⟩ := atomSym_shape hsym
  have hs := detect_fst_mem hsym
  -- the reader's `let (sym, iso) := …` is a `match` on the pair
  rcases hdet : detectHydrogenIsotopes sym with ⟨s, iso⟩
  rw [hdet] at hs
  -- each scan passes over the eight leading tokens and collects its values from the properties
  have hbase : ∀ t ∈ mv [idxTok, sym, x, y, z, aamap], NoKey t := by
    have hf := fun t ht => noKey_of_float (hx t ht).2
    simp only [mv, List.forall_mem_cons] at hf ⊢
    exact ⟨prefix_words.1.2.1, prefix_words.2.2.1, hidx, hsy, hf.1, hf.2.1, hf.2.2.1, haa, nofun⟩
  obtain ⟨hkc, hkm, hkr⟩ := keywordValues_props hbase ps hps
  obtain ⟨zAt, hz, -, -⟩ := atomicNumberOf_elementSyms s hs
  refine ⟨zAt, hz, ?_⟩
  unfold parseAtomAttributesV3000 mv
  simp only [mv, List.cons_append, List.nil_append] at hkc hkm hkr
  simp only [getIdx, List.getElem?_cons_succ, List.getElem?_cons_zero, PyM.ok_bind, beq_eq_false_iff_ne.2 hstar,
    Bool.false_eq_true, if_false,
    hdet, hz, hpf x (by simp), hpf y (by simp), hpf z (by simp), hkc]
  -- the rest of the `do` block stands in both branches of the test on `iso`
  by_cases hi : iso = 0
  · simp only [hi, beq_self_eq_true, if_true, hkm, hkr, PyM.ok_bind]
    rfl
  · simp [hi, hkr, lastNonZero]

theorem parseAtomAttributes_star (idxTok : Str) (rest : List Str) :
    parseAtomAttributesV3000 (mv (idxTok :: ['*'] :: rest)) = .ok none := by
  unfold parseAtomAttributesV3000
  rfl

/-- **Multi-attachment bonds.**  A bond line whose tokens contain `ENDPTS=(n a₁ … aₙ)` (n ≥ 1 endpoints, any
position among the optional keywords; the text `ENDPTS=(` occurs in no token in front of it, no `)` in a token
behind it: the reader takes the first `ENDPTS=(` and the last `)` of the line) expands to one bond per listed
endpoint from the non-star atom. -/
theorem parseBondLineWithStarAtom_endpts (pre post : List Str) (ends : List Nat) (start : Int)
    (hne : ends ≠ [])
    (hpre : ∀ t ∈ pre, isInfix (cs "ENDPTS=(") t = false) (hpost : ∀ t ∈ post, ')' ∉ t)
    (hsize : ∀ e ∈ ends.length :: ends, (natRepr e).length ≤ intMaxStrDigits) :
    parseBondLineWithStarAtom (pre ++ endptsToks ends ++ post) start =
      .ok (ends.map fun (e : Nat) => (start, (e : Int) - 1)) := by
  obtain ⟨init, l, rfl⟩ : ∃ init l, ends = init ++ [l] :=
    ⟨ends.dropLast, ends.getLast hne, (List.dropLast_concat_getLast hne).symm⟩
  let nums : List Str := natRepr (init.length + 1) :: (init ++ [l]).map natRepr
  have hinnerTok : ∀ t ∈ nums, IsToken t :=
    List.forall_mem_cons.2 ⟨natRepr_isToken _, List.forall_mem_map.2 fun e _ => natRepr_isToken e⟩
  have hjoin : joinSp (pre ++ endptsToks (init ++ [l]) ++ post) =
      sp pre ++ (cs "ENDPTS=(" ++ (joinSp nums ++ ')' :: sufx post)) := by
    rw [endptsToks_concat, List.append_assoc, List.cons_append, List.cons_append, joinSp_sp, joinSp_cons, joinSp_cons]
    simp [sufx_append, sufx_cons, sufx_nil]
  have hfind : findInfix (cs "ENDPTS=(") (sp pre ++ (cs "ENDPTS=(" ++ (joinSp nums ++ ')' :: sufx post))) =
      some (sp pre).length := by
    rw [findInfix_sp _ endpts_word.1 _ pre hpre, findInfix_self]
    simp
  have hinner : joinSp nums ≠ [] := by
    rw [joinSp_cons]
    intro h
    exact natRepr_ne_nil (init.length + 1) (List.append_eq_nil_iff.1 h).1
  have hpostp : ')' ∉ sufx post := fun hm => by
    obtain ⟨t, ht, h | h⟩ := mem_sufx.1 hm
    · exact absurd h (by decide)
    · exact hpost t ht h
  have hmatch := endptsMatch_eq (sp pre) (joinSp nums) (sufx post) hfind hinner hpostp
  have hsplit : splitWs (joinSp nums) = nums := splitWs_joinSp _ hinnerTok
  have hmap : nums.mapM pyInt = .ok (((init.length + 1) :: (init ++ [l])).map fun (e : Nat) => (e : Int)) := by
    show (((init.length + 1) :: (init ++ [l])).map natRepr).mapM pyInt = _
    rw [List.mapM_map, Function.comp_def]
    exact PyM.mapM_eq_ok_map _ fun e he => pyInt_natRepr e (hsize e (by simpa using he))
  unfold parseBondLineWithStarAtom
  rw [hjoin, hmatch]
  simp only [hsplit, hmap, PyM.ok_bind, List.map_cons, getIdx, List.getElem?_cons_zero, List.length_cons,
    List.length_map, List.length_append, List.length_nil, Nat.add_sub_cancel, bne_self_eq_false,
    Bool.false_eq_true, if_false, List.drop_succ_cons, List.drop_zero, List.map_map]
  rfl

theorem parseBondLineWithStarAtom_none (line : List Str) (start : Int)
    (h : ∀ t ∈ line, isInfix (cs "ENDPTS=(") t = false) : parseBondLineWithStarAtom line start = .ok [] := by
  have hnone : findInfix (cs "ENDPTS=(") (joinSp line) = none := by
    rcases List.eq_nil_or_concat line with rfl | ⟨init, l, rfl⟩
    · decide +kernel
    · rw [List.concat_eq_append, joinSp_sp init l [], show joinSp [l] = l from rfl,
        findInfix_sp _ endpts_word.1 l init (fun t ht => h t (by simp [ht])), findInfix_none _ l (h l (by simp))]
      rfl
  rw [parseBondLineWithStarAtom, endptsMatch, hnone]

end Tucan
