import TucanModel.Molfile
import TucanProofs.Lemmas.Basics.Text
import TucanProofs.Lemmas.Basics.PyM
import TucanProofs.Lemmas.SplitLines
/-! `graph_from_molfile_text` splits the text with `str.splitlines()`, reads the version from the last blank-separated
word of line 4 and hands the *lines* to one of the two readers.  So the line-ending style is invisible to the readers:
texts that split into the same lines (`SplitLines.lean`) are read alike.

`graph_from_file(path)` opens the file in text mode, so Python's universal-newlines translation rewrites `\r\n` and a
lone `\r` to `\n` before `splitlines` runs.  `splitlines` treats exactly those three as the same terminator, so for
EVERY text the translated text splits into the same lines. -/
namespace Tucan
open WR

/-- `l` ends in the word `w` behind a blank, possibly followed by white space: how line 4 states the version -/
def EndsInWord (l w : Str) : Prop :=
  ∃ pre ws, l = pre ++ ' ' :: w ++ ws ∧ (∀ c ∈ ws, isPySpace c = true) ∧ w ≠ [] ∧ (∀ c ∈ w, isPySpace c = false)

theorem version_of_line (l w : Str) (h : EndsInWord l w) :
    ((splitOnChar ' ' (rstrip l)).getLast?).getD [] = w := by
  obtain ⟨pre, ws, rfl, hws, hne, hw⟩ := h
  have hr : rstrip (pre ++ ' ' :: w ++ ws) = pre ++ ' ' :: w := by
    refine rstrip_padded _ ws hws fun c hc => hw c ?_
    rw [← List.singleton_append, ← List.append_assoc, List.getLast?_append_of_ne_nil _ hne] at hc
    exact List.mem_of_getLast? hc
  have hb : ' ' ∉ w := fun hm => by
    have := hw ' ' hm; revert this; decide
  rw [hr, splitOnChar_append_sep, splitOnChar_of_not_mem ' ' w hb]
  simp

/-- the version line as the writer and the example files have it -/
theorem versionLine_v3000 : EndsInWord (cs "  0  0  0     0  0            999 V3000") (cs "V3000") := by
  refine ⟨cs "  0  0  0     0  0            999", [], ?_, nofun, by decide +kernel⟩
  simp (disch := rfl) only [cs, toList_lit]
  rfl

theorem graphFromMolfileText_congr {t t' : Str} (h : splitLines t = splitLines t') :
    graphFromMolfileText t = graphFromMolfileText t' := by
  unfold graphFromMolfileText
  rw [h]

theorem graphFromMolfileText_of_lines {text : Str} {lines : List Str} {l3 : Str} (hs : splitLines text = lines)
    (h3 : lines[3]? = some l3) :
    (EndsInWord l3 (cs "V3000") → graphFromMolfileText text =
      (graphAttributesV3000 lines >>= fun p => graphFromMolecule p.1 p.2 >>= fun q => pure q.1)) ∧
    (EndsInWord l3 (cs "V2000") → graphFromMolfileText text =
      (graphAttributesV2000 lines >>= fun p => graphFromMolecule p.1 p.2 >>= fun q => pure q.1)) := by
  have h23 : (cs "V2000" == cs "V3000") = false := by decide +kernel
  unfold graphFromMolfileText
  simp only [hs, getIdx, h3, PyM.ok_bind]
  constructor
  · intro hv
    simp only [version_of_line l3 _ hv, beq_self_eq_true, if_true]
  · intro hv
    simp only [version_of_line l3 _ hv, h23, beq_self_eq_true, Bool.false_eq_true, if_true, if_false]

theorem graphFromMolfileText_mixed (ls : List (Str × Str)) (hnb : ∀ p ∈ ls, NoBreak p.1)
    (hok : MixedOk ls) (hm : NoCrLfMerge ls) :
    graphFromMolfileText (fileTextMixed ls) = graphFromMolfileText (fileText ['\n'] (ls.map (·.1))) := by
  refine graphFromMolfileText_congr
    ((splitLines_fileTextMixed ls hnb hok hm).trans (splitLines_fileText _ (.inl rfl) _ ?_).symm)
  intro l hl
  obtain ⟨p, hp, rfl⟩ := List.mem_map.1 hl
  exact hnb p hp

theorem SL.go_universalNewlines (t : Str) : ∀ (cur : Str) (acc : List Str),
    splitLinesGo cur acc false (universalNewlines t) = splitLinesGo cur acc false t := by
  fun_induction universalNewlines t with
  | case1 => intro cur acc; rfl
  | case2 r ih => exact fun cur acc => ih [] (cur.reverse :: acc)
  | case3 r h ih => exact fun cur acc => (ih [] (cur.reverse :: acc)).trans (SL.go_flag _ _ true fun _ => h).symm
  | case4 c r h1 h2 ih =>
    intro cur acc
    have hb : (c == '\r') = false := beq_false_of_ne fun hc => h2 hc
    simp only [splitLinesGo, Bool.false_and, Bool.false_eq_true, if_false, hb, ih]

theorem splitLines_universalNewlines (t : Str) : splitLines (universalNewlines t) = splitLines t :=
  SL.go_universalNewlines t [] []

theorem graphFromFileContent_eq (t : Str) : graphFromFileContent t = graphFromMolfileText t :=
  graphFromMolfileText_congr (splitLines_universalNewlines t)

theorem graphFromFile_eq (suffix t : Str) :
    graphFromFile suffix t = if suffix = cs ".mol" then graphFromMolfileText t else .error .osError := by
  rw [graphFromFile, graphFromFileContent_eq]
  split <;> simp_all

/-- non-vacuity: the translation does change the text -/
theorem universalNewlines_example :
    universalNewlines ['a', '\r', '\n', 'b', '\r', 'c', '\n'] = ['a', '\n', 'b', '\n', 'c', '\n'] := by
  decide

end Tucan
