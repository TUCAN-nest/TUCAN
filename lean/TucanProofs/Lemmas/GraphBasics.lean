import TucanProofs.Spec
import TucanProofs.Lemmas.Basics.List
import TucanProofs.Lemmas.Basics.AList
/-!
# Reading a `Graph`: `find?`, `labels`, `nbrsD`, `attrs?`, `edgeData?`

The observations of a graph at listed and unlisted nodes, `WF` and `Simple` in terms of `nbrsD`, and the
observations after `modifyNode`, `setNbr`, `setAttrs`, `addNode`, `mapAttrs`.  The files above talk about graphs
through these lemmas; they unfold `labels` or `find?` only for a graph given by its node list, or to read a node
list position by position.
-/
namespace Tucan

theorem Bond.update_empty (d : Bond) : Bond.update {} d = d := by
  cases d with | mk b x => cases b <;> cases x <;> rfl

theorem Bond.update_self (d : Bond) : Bond.update d d = d := by
  cases d with | mk b x => cases b <;> cases x <;> rfl

namespace NxE

theorem find?_some_id {g : Graph} {a : Nat} {n : Node} (h : g.find? a = some n) : n.id = a := by
  simpa using List.find?_some h

theorem find?_some_mem {g : Graph} {a : Nat} {n : Node} (h : g.find? a = some n) : n ∈ g.nodes :=
  List.mem_of_find?_eq_some h

theorem find?_eq_none_iff {g : Graph} {a : Nat} : g.find? a = none ↔ a ∉ g.labels := by
  unfold Graph.find? Graph.labels
  rw [List.find?_eq_none, List.mem_map]
  exact ⟨fun h ⟨n, hn, e⟩ => h n hn (beq_iff_eq.2 e), fun h n hn e => h ⟨n, hn, beq_iff_eq.1 e⟩⟩

theorem mem_labels_of_find? {g : Graph} {a : Nat} {n : Node} (h : g.find? a = some n) :
    a ∈ g.labels :=
  find?_some_id h ▸ List.mem_map_of_mem (f := (·.id)) (find?_some_mem h)

theorem find?_some_iff {g : Graph} (hnd : g.labels.Nodup) {a : Nat} {n : Node} :
    g.find? a = some n ↔ n ∈ g.nodes ∧ n.id = a :=
  ⟨fun h => ⟨find?_some_mem h, find?_some_id h⟩, fun ⟨hm, e⟩ => e ▸ List.find?_key_of_mem Node.id hnd hm⟩

theorem find?_of_mem {g : Graph} {n : Node} (hnd : g.labels.Nodup) (hn : n ∈ g.nodes) :
    g.find? n.id = some n :=
  (find?_some_iff hnd).2 ⟨hn, rfl⟩

theorem hasNode_iff {g : Graph} {a : Nat} : g.hasNode a = true ↔ a ∈ g.labels := by
  rw [Graph.hasNode, Option.isSome_iff_ne_none, Ne, find?_eq_none_iff, Classical.not_not]

theorem nbrsD_of_mem {g : Graph} {n : Node} (hnd : g.labels.Nodup) (hn : n ∈ g.nodes) :
    g.nbrsD n.id = n.nbrs := by
  unfold Graph.nbrsD
  rw [find?_of_mem hnd hn]

theorem attrs?_of_mem {g : Graph} {n : Node} (hnd : g.labels.Nodup) (hn : n ∈ g.nodes) :
    g.attrs? n.id = some n.attrs := by
  unfold Graph.attrs?
  rw [find?_of_mem hnd hn]; rfl

theorem nbrsD_of_not_mem {g : Graph} {x : Nat} (h : x ∉ g.labels) : g.nbrsD x = [] := by
  unfold Graph.nbrsD
  rw [find?_eq_none_iff.2 h]

theorem attrs?_of_not_mem {g : Graph} {a : Nat} (h : a ∉ g.labels) : g.attrs? a = none := by
  unfold Graph.attrs?
  rw [find?_eq_none_iff.2 h]; rfl

theorem edgeData?_eq (g : Graph) (u v : Nat) : g.edgeData? u v = alookup v (g.nbrsD u) := by
  unfold Graph.edgeData? Graph.nbrsD
  cases g.find? u <;> rfl

theorem mem_nbrsD_iff_edgeData? {h : Graph} {x : Nat} (hk : ((h.nbrsD x).map (·.1)).Nodup) {y : Nat}
    {e : Bond} : (y, e) ∈ h.nbrsD x ↔ h.edgeData? x y = some e := by
  rw [edgeData?_eq, alookup_eq_some_iff hk]

theorem mem_nbrsD {g : Graph} {a : Nat} {e : Nat × Bond} (h : e ∈ g.nbrsD a) :
    ∃ n ∈ g.nodes, n.id = a ∧ e ∈ n.nbrs := by
  unfold Graph.nbrsD at h
  split at h
  · rename_i n hf
    exact ⟨n, find?_some_mem hf, find?_some_id hf, h⟩
  · cases h

theorem nbrsD_eq_nil_of {g : Graph} (h : ∀ n ∈ g.nodes, n.nbrs = []) (x : Nat) :
    g.nbrsD x = [] :=
  List.eq_nil_iff_forall_not_mem.2 fun e he => by
    obtain ⟨n, hn, -, hm⟩ := mem_nbrsD he
    rw [h n hn] at hm
    cases hm

theorem mem_labels_of_mem_nbrsD {g : Graph} {a : Nat} {e : Nat × Bond} (h : e ∈ g.nbrsD a) :
    a ∈ g.labels := by
  obtain ⟨n, hn, rfl, -⟩ := mem_nbrsD h
  exact List.mem_map_of_mem hn

theorem nbrs_eq_map (g : Graph) (a : Nat) : g.nbrs a = (g.nbrsD a).map (·.1) := by
  unfold Graph.nbrs Graph.nbrsD; cases g.find? a <;> rfl

theorem nbrs_of_not_mem {g : Graph} {a : Nat} (h : a ∉ g.labels) : g.nbrs a = [] := by
  rw [nbrs_eq_map, nbrsD_of_not_mem h]; rfl

theorem adj_iff {g : Graph} {a b : Nat} : g.Adj a b ↔ ∃ d, (b, d) ∈ g.nbrsD a := by
  unfold Graph.Adj; rw [nbrs_eq_map, List.mem_map]
  constructor
  · rintro ⟨⟨b', d⟩, h, rfl⟩; exact ⟨d, h⟩
  · rintro ⟨d, h⟩; exact ⟨(b, d), h, rfl⟩

theorem find?_modifyNode (g : Graph) (a : Nat) (F : Node → Node) (hF : ∀ n, (F n).id = n.id)
    (x : Nat) :
    (g.modifyNode a F).find? x = if x = a then (g.find? x).map F else g.find? x := by
  unfold Graph.modifyNode Graph.find?
  rw [List.find?_map]
  have : ((fun n : Node => n.id == x) ∘ fun n => if n.id == a then F n else n)
      = fun n : Node => n.id == x := by
    funext n
    simp only [Function.comp]
    split <;> simp [hF]
  rw [this]
  cases hf : g.nodes.find? (·.id == x) with
  | none => simp
  | some n =>
    have hid : n.id = x := by simpa using List.find?_some hf
    by_cases h : x = a <;> simp [hid, h]

theorem labels_modifyNode (g : Graph) (a : Nat) (F : Node → Node) (hF : ∀ n, (F n).id = n.id) :
    (g.modifyNode a F).labels = g.labels := by
  unfold Graph.modifyNode Graph.labels
  rw [List.map_map]
  apply List.map_congr_left
  intro n _
  simp only [Function.comp]
  split <;> simp [hF]

theorem modifyNode_mid {pre post : List Node} {x : Node} (F : Node → Node)
    (hpre : x.id ∉ pre.map (·.id)) (hpost : x.id ∉ post.map (·.id)) :
    (⟨pre ++ x :: post⟩ : Graph).modifyNode x.id F = ⟨pre ++ F x :: post⟩ := by
  have keep : ∀ l : List Node, x.id ∉ l.map (·.id) →
      l.map (fun n => if n.id == x.id then F n else n) = l := fun l hl =>
    (List.map_congr_left fun n hn =>
      if_neg fun e => hl (List.mem_map.2 ⟨n, hn, beq_iff_eq.1 e⟩)).trans (List.map_id l)
  unfold Graph.modifyNode
  rw [List.map_append, List.map_cons, keep pre hpre, keep post hpost, if_pos (beq_self_eq_true _)]

theorem labels_setNbr (g : Graph) (u v : Nat) (d : Bond) : (g.setNbr u v d).labels = g.labels :=
  labels_modifyNode g u _ (fun _ => rfl)

theorem nbrsD_setNbr (g : Graph) (u v : Nat) (d : Bond) (x : Nat) :
    (g.setNbr u v d).nbrsD x
      = if x = u ∧ u ∈ g.labels then ainsert v d (g.nbrsD u) else g.nbrsD x := by
  unfold Graph.setNbr Graph.nbrsD
  rw [find?_modifyNode]
  · by_cases hxu : x = u
    · subst hxu
      rw [if_pos rfl]
      cases hf : g.find? x with
      | none => rw [if_neg (fun h => find?_eq_none_iff.1 hf h.2)]; rfl
      | some n => rw [if_pos ⟨rfl, mem_labels_of_find? hf⟩]; rfl
    · rw [if_neg hxu, if_neg (fun h => hxu h.1)]
  · exact fun _ => rfl

theorem attrs?_setNbr (g : Graph) (u v : Nat) (d : Bond) (x : Nat) :
    (g.setNbr u v d).attrs? x = g.attrs? x := by
  unfold Graph.setNbr Graph.attrs?
  rw [find?_modifyNode]
  · split
    · cases g.find? x <;> rfl
    · rfl
  · exact fun _ => rfl

theorem edgeData?_setNbr (g : Graph) {u : Nat} (v : Nat) (d : Bond) (hu : u ∈ g.labels) (x y : Nat) :
    (g.setNbr u v d).edgeData? x y = if x = u ∧ y = v then some d else g.edgeData? x y := by
  rw [edgeData?_eq, edgeData?_eq, nbrsD_setNbr]
  by_cases hx : x = u
  · subst hx
    rw [if_pos ⟨rfl, hu⟩, alookup_ainsert]
    simp only [beq_iff_eq, true_and, @eq_comm _ y]
  · simp [hx]

theorem keys_setNbr (g : Graph) (u v : Nat) (d : Bond) (hk : ∀ x, ((g.nbrsD x).map (·.1)).Nodup)
    (x : Nat) : (((g.setNbr u v d).nbrsD x).map (·.1)).Nodup := by
  rw [nbrsD_setNbr]
  split
  · exact nodup_keys_ainsert (hk u)
  · exact hk x

theorem labels_setAttrs (g : Graph) (u : Nat) (d : Atom) : (g.setAttrs u d).labels = g.labels :=
  labels_modifyNode g u _ (fun _ => rfl)

theorem nbrsD_setAttrs (g : Graph) (u : Nat) (d : Atom) (x : Nat) :
    (g.setAttrs u d).nbrsD x = g.nbrsD x := by
  unfold Graph.setAttrs Graph.nbrsD
  rw [find?_modifyNode]
  · by_cases h : x = u
    · rw [if_pos h]
      cases g.find? x <;> rfl
    · rw [if_neg h]
  · exact fun _ => rfl

theorem attrs?_setAttrs (g : Graph) (u : Nat) (d : Atom) (x : Nat) :
    (g.setAttrs u d).attrs? x
      = if x = u then (g.attrs? u).map (fun _ => d) else g.attrs? x := by
  unfold Graph.setAttrs Graph.attrs?
  rw [find?_modifyNode]
  · by_cases hxu : x = u
    · subst hxu
      rw [if_pos rfl, if_pos rfl, Option.map_map, Option.map_map]
      rfl
    · rw [if_neg hxu, if_neg hxu]
  · exact fun _ => rfl

theorem find?_mapAttrs (g : Graph) (F : Nat → Atom → Atom) (a : Nat) :
    (g.mapAttrs F).find? a = (g.find? a).map (fun n => { n with attrs := F n.id n.attrs }) := by
  unfold Graph.mapAttrs Graph.find?
  rw [List.find?_map]
  rfl

theorem addNode_of_mem {g : Graph} {a : Nat} (h : a ∈ g.labels) : g.addNode a = g := by
  unfold Graph.addNode
  rw [hasNode_iff.2 h]; rfl

theorem hasNode_eq_false {g : Graph} {a : Nat} (h : a ∉ g.labels) : g.hasNode a = false := by
  rw [← Bool.not_eq_true, hasNode_iff]; exact h

theorem addNode_of_not_mem {g : Graph} {a : Nat} (h : a ∉ g.labels) :
    g.addNode a = ⟨g.nodes ++ [⟨a, {}, []⟩]⟩ := by
  unfold Graph.addNode
  rw [hasNode_eq_false h]; rfl

theorem addNodeWith_of_not_mem {g : Graph} {a : Nat} (d : Atom) (h : a ∉ g.labels) :
    g.addNodeWith a d = ⟨g.nodes ++ [⟨a, d, []⟩]⟩ := by
  unfold Graph.addNodeWith
  rw [hasNode_eq_false h]; rfl

theorem foldl_append_nodes {α} (step : Graph → α → Graph) (mk : α → Node)
    (hstep : ∀ h x, (mk x).id ∉ h.labels → step h x = ⟨h.nodes ++ [mk x]⟩) (xs : List α) (h : Graph)
    (hnd : (h.labels ++ xs.map fun x => (mk x).id).Nodup) :
    xs.foldl step h = ⟨h.nodes ++ xs.map mk⟩ := by
  induction xs generalizing h with
  | nil => rw [List.foldl_nil, List.map_nil, List.append_nil]
  | cons x r ih =>
    have hx : (mk x).id ∉ h.labels := fun hc =>
      (List.nodup_append.1 hnd).2.2 _ hc _ List.mem_cons_self rfl
    rw [List.foldl_cons, hstep h x hx, ih, List.map_cons, List.append_assoc, List.singleton_append]
    rw [Graph.labels, List.map_append, List.append_assoc]
    exact hnd

end NxE
open NxE

theorem Graph.WF.symmD {g : Graph} (hw : g.WF) {a b : Nat} {d : Bond} (h : (b, d) ∈ g.nbrsD a) :
    (a, d) ∈ g.nbrsD b := by
  obtain ⟨n, hn, rfl, he⟩ := mem_nbrsD h
  exact hw.symm n hn _ he

theorem Graph.WF.closedD {g : Graph} (hw : g.WF) {a b : Nat} {d : Bond} (h : (b, d) ∈ g.nbrsD a) :
    b ∈ g.labels := by
  obtain ⟨n, hn, rfl, he⟩ := mem_nbrsD h
  exact hw.closed n hn _ he

theorem Graph.WF.nodupD {g : Graph} (hw : g.WF) (a : Nat) : ((g.nbrsD a).map (·.1)).Nodup := by
  unfold Graph.nbrsD
  cases hf : g.find? a with
  | none => exact List.nodup_nil
  | some n => exact hw.nbrNodup n (find?_some_mem hf)

theorem Graph.Simple.neD {g : Graph} (hs : g.Simple) {a b : Nat} {d : Bond} (h : (b, d) ∈ g.nbrsD a) :
    b ≠ a := by
  obtain ⟨n, hn, rfl, he⟩ := mem_nbrsD h
  exact hs n hn _ he

theorem Graph.WF.uniqueD {g : Graph} (hw : g.WF) {a b : Nat} {d d' : Bond} (h : (b, d) ∈ g.nbrsD a)
    (h' : (b, d') ∈ g.nbrsD a) : d = d' := by
  rw [← alookup_eq_some_iff (hw.nodupD a)] at h h'
  exact Option.some.inj (h.symm.trans h')

theorem Graph.WF.of_obs {h : Graph} (hnd : h.labels.Nodup)
    (hk : ∀ a, ((h.nbrsD a).map (·.1)).Nodup)
    (hc : ∀ a w d, (w, d) ∈ h.nbrsD a → w ∈ h.labels ∧ (a, d) ∈ h.nbrsD w) : h.WF := by
  refine ⟨hnd, ?_, ?_, ?_⟩
  · intro n hn; rw [← nbrsD_of_mem hnd hn]; exact hk _
  · rintro n hn ⟨w, d⟩ he; rw [← nbrsD_of_mem hnd hn] at he; exact (hc _ _ _ he).1
  · rintro n hn ⟨w, d⟩ he; rw [← nbrsD_of_mem hnd hn] at he; exact (hc _ _ _ he).2

theorem Graph.Simple.of_obs {h : Graph} (hnd : h.labels.Nodup)
    (hc : ∀ a w d, (w, d) ∈ h.nbrsD a → w ≠ a) : h.Simple := by
  rintro n hn ⟨w, d⟩ he; rw [← nbrsD_of_mem hnd hn] at he; exact hc _ _ _ he

theorem Graph.length_labels (g : Graph) : g.labels.length = g.numberOfNodes := List.length_map _

theorem Graph.map_labels {β} (g : Graph) (f : Nat → β) : g.labels.map f = g.nodes.map fun n => f n.id := List.map_map

theorem Graph.nodes_eq_nil {g : Graph} (h : g.labels = []) : g.nodes = [] := List.map_eq_nil_iff.1 h

theorem Graph.attrs_eq_ok {g : Graph} {a : Nat} {x : Atom} : g.attrs a = .ok x ↔ g.attrs? a = some x := by
  unfold Graph.attrs Graph.attrs?
  cases g.find? a with
  | none => exact ⟨fun h => (nomatch h), fun h => (nomatch h)⟩
  | some n => exact ⟨fun h => congrArg some (Except.ok.inj h), fun h => congrArg Except.ok (Option.some.inj h)⟩

theorem Graph.neighbors_eq_ok {g : Graph} {a : Nat} {ns : List Nat} :
    g.neighbors a = .ok ns ↔ (g.attrs? a).isSome ∧ ns = g.nbrs a := by
  unfold Graph.neighbors Graph.attrs? Graph.nbrs
  cases g.find? a with
  | none => exact ⟨fun h => (nomatch h), fun h => (nomatch h.1)⟩
  | some n => exact ⟨fun h => ⟨rfl, (Except.ok.inj h).symm⟩, fun h => h.2 ▸ rfl⟩

theorem Graph.labels_mapAttrs (g : Graph) (F : Nat → Atom → Atom) : (g.mapAttrs F).labels = g.labels := by
  unfold Graph.mapAttrs Graph.labels
  rw [List.map_map]
  rfl

theorem Graph.nbrsD_mapAttrs (g : Graph) (F : Nat → Atom → Atom) (a : Nat) : (g.mapAttrs F).nbrsD a = g.nbrsD a := by
  unfold Graph.nbrsD
  rw [find?_mapAttrs]
  cases g.find? a <;> rfl

theorem Graph.attrs?_mapAttrs (g : Graph) (F : Nat → Atom → Atom) (a : Nat) :
    (g.mapAttrs F).attrs? a = (g.attrs? a).map (F a) := by
  unfold Graph.attrs?
  rw [find?_mapAttrs]
  cases hf : g.find? a with
  | none => rfl
  | some n =>
    have := find?_some_id hf
    subst this
    rfl

theorem Graph.WF.mapAttrs {g : Graph} (hw : g.WF) (F : Nat → Atom → Atom) : (g.mapAttrs F).WF :=
  Graph.WF.of_obs (g.labels_mapAttrs F ▸ hw.nodup) (fun a => g.nbrsD_mapAttrs F a ▸ hw.nodupD a) fun a w d he => by
    rw [Graph.nbrsD_mapAttrs] at he ⊢
    rw [Graph.labels_mapAttrs]
    exact ⟨hw.closedD he, hw.symmD he⟩

theorem Graph.Simple.mapAttrs {g : Graph} (hs : g.Simple) (F : Nat → Atom → Atom) : (g.mapAttrs F).Simple :=
  List.forall_mem_map.2 fun n hn => hs n hn

theorem Graph.attrs?_some_of_mem {g : Graph} {a : Nat} (h : a ∈ g.labels) : ∃ x, g.attrs? a = some x := by
  unfold Graph.attrs?
  cases hf : g.find? a with
  | none => exact absurd h (find?_eq_none_iff.1 hf)
  | some n => exact ⟨n.attrs, rfl⟩

theorem Graph.mem_labels_of_attrs? {g : Graph} {a : Nat} {x : Atom} (h : g.attrs? a = some x) : a ∈ g.labels :=
  Classical.byContradiction fun hn => nomatch (attrs?_of_not_mem hn).symm.trans h

theorem Graph.forall_attrs?_of_nodes {g : Graph} {P : Atom → Prop} (h : ∀ n ∈ g.nodes, P n.attrs) :
    ∀ a ∈ g.labels, ∀ x, g.attrs? a = some x → P x := by
  intro a _ x hx
  obtain ⟨n, hf, rfl⟩ := Option.map_eq_some_iff.1 hx
  exact h n (find?_some_mem hf)

/-- `G.nodes[a].get("partition")` -/
def partOf? (g : Graph) (a : Nat) : Option Int := (g.attrs? a).bind (·.part)

theorem partOf?_of_attrs {g : Graph} {a : Nat} {x : Atom} (h : g.attrs? a = some x) : partOf? g a = x.part := by
  rw [partOf?, h]
  rfl

theorem nodes_filterMap_eq_labels {β} {g : Graph} (hw : g.WF) (F : Nat → Atom → Option β) :
    g.nodes.filterMap (fun n => F n.id n.attrs)
      = g.labels.filterMap (fun a => (g.attrs? a).bind (F a)) := by
  unfold Graph.labels
  rw [List.filterMap_map]
  apply List.filterMap_congr
  intro n hn
  show F n.id n.attrs = (g.attrs? n.id).bind (F n.id)
  rw [attrs?_of_mem hw.nodup hn]
  rfl

theorem Graph.Adj.symm {g : Graph} {a b : Nat} (h : g.Adj a b) (hw : g.WF) : g.Adj b a := by
  obtain ⟨d, hd⟩ := adj_iff.1 h
  exact adj_iff.2 ⟨d, hw.symmD hd⟩

theorem Graph.Adj.mem_left {g : Graph} {a b : Nat} (h : g.Adj a b) : a ∈ g.labels := by
  obtain ⟨d, hd⟩ := adj_iff.1 h
  exact mem_labels_of_mem_nbrsD hd

theorem Graph.Adj.mem_right {g : Graph} {a b : Nat} (h : g.Adj a b) (hw : g.WF) : b ∈ g.labels := by
  obtain ⟨d, hd⟩ := adj_iff.1 h
  exact hw.closedD hd

theorem Graph.Adj.ne {g : Graph} {a b : Nat} (h : g.Adj a b) (hs : g.Simple) : b ≠ a := by
  obtain ⟨d, hd⟩ := adj_iff.1 h
  exact hs.neD hd

theorem Graph.WF.nodup_nbrs {g : Graph} (hw : g.WF) (a : Nat) : (g.nbrs a).Nodup := by
  rw [nbrs_eq_map]
  exact hw.nodupD a

theorem Graph.WF.nodup_map_nbrs {g : Graph} (hw : g.WF) {f : Nat → Nat}
    (hinj : ∀ a ∈ g.labels, ∀ b ∈ g.labels, f a = f b → a = b) (a : Nat) : ((g.nbrs a).map f).Nodup :=
  (hw.nodup_nbrs a).map_on f fun x hx y hy => hinj x (Graph.Adj.mem_right hx hw) y (Graph.Adj.mem_right hy hw)

theorem nbrs_perm_of_nbrsD_perm {g h : Graph} {a : Nat} (hp : (h.nbrsD a).Perm (g.nbrsD a)) :
    (h.nbrs a).Perm (g.nbrs a) := by
  rw [nbrs_eq_map, nbrs_eq_map]
  exact hp.map _

theorem nbrs_perm_map_of_nbrsD_perm {g h : Graph} {a b : Nat} {f : Nat → Nat}
    (hp : (h.nbrsD b).Perm ((g.nbrsD a).map fun e => (f e.1, e.2))) : (h.nbrs b).Perm ((g.nbrs a).map f) := by
  rw [nbrs_eq_map, nbrs_eq_map, List.map_map]
  exact (hp.map (·.1)).trans (.of_eq (List.map_map ..))

end Tucan
